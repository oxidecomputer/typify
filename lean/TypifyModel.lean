-- root: every model, proof and audit-free module (append new imports at the end)
import TypifyModel.Model.IntTypes
import TypifyModel.Model.Integer
import TypifyModel.Generated.Tables
import TypifyModel.Proofs.C10
import TypifyModel.Proofs.C10Findings
import TypifyModel.Model.Names
import TypifyModel.Proofs.C08
import TypifyModel.Proofs.C08Findings
import TypifyModel.Model.Cycles
import TypifyModel.Proofs.C07
import TypifyModel.Model.Json
import TypifyModel.Model.Ir
import TypifyModel.Model.Serde
import TypifyModel.Proofs.Lemmas.SerdeBasics
import TypifyModel.Proofs.Lemmas.SerdeDe
import TypifyModel.Model.SerdeSer
import TypifyModel.Model.StrConv
import TypifyModel.Proofs.C11
import TypifyModel.Model.Determinism
import TypifyModel.Generated.HashSites
import TypifyModel.Proofs.C12
import TypifyModel.Model.Render
import TypifyModel.Proofs.C19
import TypifyModel.Model.FrontendsBase
import TypifyModel.Model.Frontends
import TypifyModel.Generated.Frontends
import TypifyModel.Proofs.C15
import TypifyModel.Model.Semver
import TypifyModel.Model.RustExt
import TypifyModel.Proofs.C13
import TypifyModel.Model.Builder
import TypifyModel.Proofs.C18
import TypifyModel.Proofs.C05
import TypifyModel.Model.Api
import TypifyModel.Proofs.C17
import TypifyModel.Proofs.C17Findings
import TypifyModel.Proofs.C18Findings
import TypifyModel.Model.Schema
import TypifyModel.Proofs.Lemmas.JsonBasics
import TypifyModel.Model.Conv
import TypifyModel.Proofs.C02
import TypifyModel.Model.SettingsApply
import TypifyModel.Proofs.C14
import TypifyModel.Model.Defaults
import TypifyModel.Model.Value
import TypifyModel.Model.DefaultsWF
import TypifyModel.Proofs.C06
import TypifyModel.Proofs.C06Findings
import TypifyModel.Model.RoundTrip
import TypifyModel.Proofs.C03
import TypifyModel.Model.Merge
import TypifyModel.Proofs.C09
import TypifyModel.Proofs.C09Findings
import TypifyModel.Model.SpaceSM
import TypifyModel.Proofs.C16
import TypifyModel.Proofs.C16Findings
import TypifyModel.Model.Wf
import TypifyModel.Model.PanicTable
import TypifyModel.Generated.PanicSites
import TypifyModel.Proofs.C01
import TypifyModel.Proofs.C01Findings
import TypifyModel.Model.WireEq
import TypifyModel.Proofs.C04
import TypifyModel.Model.Contain
import TypifyModel.Proofs.C03Contain
import TypifyModel.Model.Natives
import TypifyModel.Generated.StringFormats
import TypifyModel.Proofs.C11Natives
import TypifyModel.Proofs.C11Findings
import TypifyModel.Proofs.C10Strings
import TypifyModel.Generated.Interior
import TypifyModel.Model.Enc
import TypifyModel.Proofs.C05Enc
import TypifyModel.Proofs.C03Valid
import TypifyModel.Model.ConvertString
import TypifyModel.Proofs.C05Convert
import TypifyModel.Model.ConvertArray
import TypifyModel.Proofs.C05ConvertArray
import TypifyModel.Model.ConvertObject
import TypifyModel.Proofs.C05ConvertObject
import TypifyModel.Model.Exclusive
import TypifyModel.Proofs.Exclusive
import TypifyModel.Model.Tagging
import TypifyModel.Proofs.Tagging
import TypifyModel.Proofs.TaggingComplete
import TypifyModel.Model.DispatchSrc
import TypifyModel.Model.Dispatch
import TypifyModel.Proofs.Dispatch
import TypifyModel.Proofs.DispatchFuel
import TypifyModel.Generated.DispatchArms
import TypifyModel.Proofs.DispatchSource
import TypifyModel.Proofs.DispatchFragmentSource
import TypifyModel.Model.StructProps
import TypifyModel.Proofs.StructProps
import TypifyModel.Proofs.SerdeAttrs
import TypifyModel.Generated.Templates
import TypifyModel.Proofs.C11Templates
import TypifyModel.Model.ConvertEnum
import TypifyModel.Proofs.ConvertEnum
