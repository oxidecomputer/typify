import TypifyModel.Proofs.C01
import TypifyModel.Proofs.C01Findings
import TypifyModel.Proofs.Dispatch
import TypifyModel.Proofs.DispatchFuel
import TypifyModel.Proofs.DispatchFragmentSource
open TypifyModel.C01
#print axioms wf_compiles
#print axioms wf_unique_items
#print axioms wf_fields_distinct
#print axioms wf_types_resolve
#print axioms wf_type_names_declared
#print axioms wf_impls_coherent
#print axioms derives_ok_of_tables
#print axioms wf_derivable
#print axioms wf_finite_size
#print axioms wf_no_containment_cycle
#print axioms wf_serde_legal
#print axioms display_literals_valid
#print axioms render_total
#print axioms panic_sites_covered
#print axioms tables_derivable
#print axioms exSpace_wf
#print axioms TypifyModel.Wf.typeIdent_eq_render
#print axioms TypifyModel.Wf.modOf_summary
#print axioms TypifyModel.Wf.modOf_types
#print axioms TypifyModel.Wf.byValue_rank
#print axioms TypifyModel.C01Findings.nullableDef_not_compiles
#print axioms TypifyModel.C01Findings.tuple13_not_compiles
#print axioms TypifyModel.C01Findings.setVec_not_compiles
#print axioms TypifyModel.C01Findings.aliasCycle_not_compiles
#print axioms TypifyModel.C01.wf_deref_finite
#print axioms TypifyModel.Dispatch.fragment_never_todo
#print axioms TypifyModel.Dispatch.todo_witnesses
#print axioms TypifyModel.Dispatch.again_decreases
#print axioms TypifyModel.Dispatch.resolve_three_suffices
#print axioms TypifyModel.Dispatch.resolve_total
#print axioms TypifyModel.Dispatch.source_arms_as_read
#print axioms TypifyModel.Dispatch.typed_arms_agree
#print axioms TypifyModel.Dispatch.source_first_match
#print axioms TypifyModel.Dispatch.fragment_source_arm
#print axioms TypifyModel.Dispatch.typed_arms_callees
#print axioms TypifyModel.Dispatch.first_arm_nullable
#print axioms TypifyModel.Dispatch.rewrite_arms_callees
#print axioms TypifyModel.Dispatch.typed_arms_guards
#print axioms TypifyModel.Dispatch.rewrite_arms_first
#print axioms TypifyModel.Dispatch.armsRewrite_is_rwModel
#print axioms TypifyModel.Dispatch.subschema_arms_agree
#print axioms TypifyModel.Dispatch.soleArm_is_soleArmB
