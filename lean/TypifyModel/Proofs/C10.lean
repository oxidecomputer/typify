import TypifyModel.Proofs.Lemmas.IntegerLemmas
import TypifyModel.Generated.Tables
/-! # C10 — built-in type selection can represent every value the schema admits

The theorems are stated over the table `Generated.intFormats`, which the translator regenerates
from `convert.rs` on every run, and over `Integer.convertInteger`, which the correspondence check
`c10` ties to the real `convert_integer`. Their vocabulary (`admits`, `admitsBounds`, `Small`,
`SmallKw`, `TableOK`) is defined in `Proofs/Lemmas/IntegerLemmas.lean`. -/
namespace TypifyModel.C10
open TypifyModel TypifyModel.Integer TypifyModel.Generated

theorem table_ok : TableOK intFormats := by decide +kernel

/-- the recognised format's row, if any -/
def fmtRow (tbl : List FormatRow) (s : IntSchema) : Option FormatRow :=
  s.format.bind (fun f => tbl.find? (fun r => r.name == f))

/-- "reading recognised integer formats as ranges": the range of the format's type, else i64's -/
def baseline (tbl : List FormatRow) (s : IntSchema) : RTy :=
  match fmtRow tbl s with
  | some r => r.ty
  | none => .i64

theorem fmtRow_mem {tbl : List FormatRow} {s : IntSchema} {r : FormatRow}
    (h : fmtRow tbl s = some r) : r ∈ tbl := by
  unfold fmtRow at h
  cases hf : s.format with
  | none => rw [hf] at h; simp at h
  | some f => rw [hf] at h; simp only [Option.bind_some] at h; exact List.mem_of_find?_eq_some h

theorem convertInteger_eq (tbl : List FormatRow) (s : IntSchema) :
    convertInteger tbl s = match fmtRow tbl s with
      | some row => withFormat tbl s row (computeMin s) (computeMax s)
      | none => tail tbl s (computeMin s) (computeMax s) .i64 := rfl

/-- **C10 main theorem (any table satisfying the row facts).** Every integer admitted by the
    schema's bounds and by the recognised format's range fits the chosen Rust type. No bound on
    the magnitude of the keywords: rounding to f64 is part of the model. -/
theorem int_fits_tbl (tbl : List FormatRow) (htbl : TableOK tbl) (s : IntSchema) (ty : RTy) (n : Int)
    (hconv : convertInteger tbl s = .ok ty) (hadm : admits s n)
    (hbase : (baseline tbl s).inRange n) : ty.inRange n := by
  have hmin := computeMin_sound hadm
  have hmax := computeMax_sound hadm
  rw [convertInteger_eq] at hconv
  unfold baseline at hbase
  cases hrow : fmtRow tbl s with
  | none =>
    rw [hrow] at hconv hbase
    have ⟨hl, hh⟩ := hbase
    simp only [RTy.lo, RTy.hi] at hl hh
    exact tail_fits htbl hconv hmin hmax hl hh (by omega) (by omega) (by intro h; omega) hbase
  | some row =>
    rw [hrow] at hconv hbase
    simp only at hconv hbase
    have hr := htbl.1 row (fmtRow_mem hrow)
    have rmin := hr.min_eq; have rlo0 := hr.lo_nonpos; have rhi0 := hr.hi_nonneg
    have rmax := hr.max_eq; have rlo := hr.lo_small; have rhi := hr.hi_le
    have nzlo := hr.nz_lo; have nzhi := hr.nz_hi; have rbig := hr.unsigned_of_big
    obtain ⟨hl, hh⟩ := hbase
    rcases withFormat_ok hconv with rfl | htail
    · -- valid: the format's type, or its NonZero type at min = 1
      split
      · have := hmin 1 ‹_› (by unfold Small; omega)
        unfold RTy.inRange; omega
      · exact ⟨hl, hh⟩
    · -- fall-through: bounds intersected with the format's range
      refine tail_fits (lb := row.ty.lo) (hb := row.ty.hi) htbl htail
        (intersectMin_sound hmin (by omega)) (intersectMax_sound hmax (by omega))
        hl hh (by omega) rhi (fun hb => ⟨_, rfl, ?_⟩) ⟨hl, hh⟩
      have := rbig hb
      unfold intersectMin
      cases computeMin s <;> simp only <;> omega

/-- **C10 on the current source**: instantiated with the table extracted from `/repo`. -/
theorem int_fits (s : IntSchema) (ty : RTy) (n : Int)
    (hconv : convertInteger intFormats s = .ok ty) (hadm : admits s n)
    (hbase : (baseline intFormats s).inRange n) : ty.inRange n :=
  int_fits_tbl intFormats table_ok s ty n hconv hadm hbase

/-- **C10: a NonZero type is chosen only when zero is excluded.** -/
theorem nz_only_tbl (tbl : List FormatRow) (htbl : TableOK tbl) (s : IntSchema) (ty : RTy)
    (hconv : convertInteger tbl s = .ok ty) (hnz : ty.isNonZero = true) : ¬ admits s 0 := by
  intro hadm
  have key : computeMin s ≠ some 1 := fun h1 => by
    have := computeMin_sound hadm 1 h1 (by unfold Small; omega)
    omega
  rw [convertInteger_eq] at hconv
  cases hrow : fmtRow tbl s with
  | none =>
    rw [hrow] at hconv
    exact key (tail_nz htbl hconv rfl hnz)
  | some row =>
    rw [hrow] at hconv; simp only at hconv
    have hr := htbl.1 row (fmtRow_mem hrow)
    have rmin := hr.min_eq; have rlo0 := hr.lo_nonpos; have hty := hr.ty_isNonZero
    rcases withFormat_ok hconv with rfl | htail
    · rw [if_neg key, hty] at hnz; cases hnz
    · -- the tail's lower bound is max(min, row.min), and row.min ≤ 0
      have h1 := Option.some.inj (tail_nz htbl htail hty hnz)
      unfold intersectMin at h1
      cases hmn : computeMin s with
      | none => rw [hmn] at h1; simp only at h1; omega
      | some m0 =>
        rw [hmn] at h1 key; simp only at h1
        exact key (congrArg some (by omega))

theorem nz_only (s : IntSchema) (ty : RTy)
    (hconv : convertInteger intFormats s = .ok ty) (hnz : ty.isNonZero = true) : ¬ admits s 0 :=
  nz_only_tbl intFormats table_ok s ty hconv hnz

/-- **C10: an integer default outside the admitted range is an error** (keywords and default
    within ±2^52 so that their f64 images are exact). -/
theorem bad_default_tbl (tbl : List FormatRow) (htbl : TableOK tbl) (s : IntSchema) (d : Int)
    (hd : s.default = some (.num d)) (hsd : Small d) (hk : SmallKw s)
    (hbad : ¬ (admitsBounds s d ∧ (baseline tbl s).inRange d)) :
    convertInteger tbl s = .error .invalidValue := by
  have hrd : roundF64 d = d := round_of_arg_Small hsd
  -- if the default passes every check the model makes, it is admitted: contradiction
  have tail_err : ∀ mn mx fb, (¬ ((∀ m, mn = some m → m ≤ d) ∧ (∀ m, mx = some m → d ≤ m))) →
      tail tbl s mn mx fb = .error .invalidValue := by
    intro mn mx fb hnot
    have : tailDefaultOk s mn mx = false := by
      unfold tailDefaultOk
      rw [hd]; simp only [hrd]
      cases mn <;> cases mx <;> simp at hnot ⊢ <;> omega
    rw [tail, this]; rfl
  rw [convertInteger_eq]
  unfold baseline at hbad
  cases hrow : fmtRow tbl s with
  | none =>
    rw [hrow] at hbad; simp only at hbad ⊢
    refine tail_err _ _ _ fun ⟨h1, h2⟩ => hbad ⟨admitsBounds_of_computed hk h1 h2, ?_⟩
    unfold RTy.inRange Small at *; simp only [RTy.lo, RTy.hi]; omega
  | some row =>
    rw [hrow] at hbad; simp only at hbad ⊢
    have hr := htbl.1 row (fmtRow_mem hrow)
    have rmin := hr.min_eq; have rlo0 := hr.lo_nonpos; have rhi0 := hr.hi_nonneg
    have rmax := hr.max_eq; have rlo := hr.lo_small; have rhi := hr.hi_le
    have hrange : row.min ≤ d → d ≤ row.max → row.ty.inRange d := by
      unfold Small at hsd
      intro _ _; constructor <;> omega
    unfold withFormat
    by_cases hv : formatValid s row (computeMin s) (computeMax s) = true
    · rw [if_pos hv]
      have : formatDefaultBad s row (computeMin s) (computeMax s) = true := by
        unfold formatDefaultBad
        rw [hd]; simp only [hrd]
        apply Classical.byContradiction
        intro hnb
        simp only [Bool.or_eq_true, decide_eq_true_eq, not_or, Int.not_lt] at hnb
        obtain ⟨⟨⟨b1, b2⟩, b3⟩, b4⟩ := hnb
        exact hbad ⟨admitsBounds_of_computed hk (fun m hm => by rw [hm] at b3; simpa using b3)
          (fun m hm => by rw [hm] at b4; simpa using b4), hrange b1 b2⟩
      rw [if_pos this]
    · rw [if_neg hv]
      refine tail_err _ _ _ fun ⟨h1, h2⟩ => ?_
      have h1' := h1 _ rfl
      have h2' := h2 _ rfl
      unfold intersectMin at h1'
      unfold intersectMax at h2'
      refine hbad ⟨admitsBounds_of_computed hk (fun m hm => ?_) (fun m hm => ?_), hrange ?_ ?_⟩
      · rw [hm] at h1'; simp only at h1'; omega
      · rw [hm] at h2'; simp only at h2'; omega
      · cases hmn : computeMin s <;> rw [hmn] at h1' <;> simp only at h1' <;> omega
      · cases hmx : computeMax s <;> rw [hmx] at h2' <;> simp only at h2' <;> omega

theorem bad_default (s : IntSchema) (d : Int)
    (hd : s.default = some (.num d)) (hsd : Small d) (hk : SmallKw s)
    (hbad : ¬ (admitsBounds s d ∧ (baseline intFormats s).inRange d)) :
    convertInteger intFormats s = .error .invalidValue :=
  bad_default_tbl intFormats table_ok s d hd hsd hk hbad

/-- Independent reading of the recognised integer formats as ranges (not taken from typify):
    the fixed-width names mean their widths; `int`/`uint` are what schemars emits for
    `isize`/`usize`, i.e. 64-bit on the targets typify supports. -/
def specRange (f : String) : Option (Int × Int) :=
  if f = "int8" then some (-128, 127)
  else if f = "uint8" then some (0, 255)
  else if f = "int16" then some (-32768, 32767)
  else if f = "uint16" then some (0, 65535)
  else if f = "int32" then some (-2147483648, 2147483647)
  else if f = "uint32" then some (0, 4294967295)
  else if f = "int64" then some (-9223372036854775808, 9223372036854775807)
  else if f = "uint64" then some (0, 18446744073709551615)
  else if f = "int" then some (-9223372036854775808, 9223372036854775807)
  else if f = "uint" then some (0, 18446744073709551615)
  else none

/-- full statement: every recognised format is read as (at least) its specified range -/
def formats_spec_full : Prop :=
  ∀ r ∈ intFormats, ∃ lo hi, specRange r.name = some (lo, hi) ∧ r.ty.lo ≤ lo ∧ hi ≤ r.ty.hi

/-- what does hold: every format other than `int`/`uint` has exactly its specified range, and
    the eight fixed-width names are all recognised -/
theorem formats_spec_partial :
    (intFormats.all fun r => r.name == "int" || r.name == "uint" ||
      specRange r.name == some (r.ty.lo, r.ty.hi)) = true := by decide +kernel

theorem formats_recognised :
    (["int8", "uint8", "int16", "uint16", "int32", "uint32", "int64", "uint64"].all fun f =>
      (intFormats.find? (fun r => r.name == f)).isSome) = true := by decide +kernel

-- non-vacuity: a schema on the fall-through path with an admitted, in-baseline value
example : convertInteger intFormats { format := some "uint64", minimum := some (-5) } = .ok .u64 := by rfl
example : admits { format := some "uint64", minimum := some (-5) } 9223372036854775813 := by
  refine ⟨?_, ?_, ?_, ?_, ?_⟩ <;> intro m h <;> simp at h <;> omega

end TypifyModel.C10
