import TypifyModel.Model.Api
import TypifyModel.Proofs.Lemmas.SettingsApplyLemmas
/-! # C17 — the introspection API describes the code that is generated

∀ IR, settings, entries: what `Model/Api.lean` (the `Type` API) reports coincides with what
`Model/Render.lean` (the emitted items) contains. Both models are tied to the real code on every
run: the API answers by `tvh_ir`'s `types` (real `iter_types()`), the items by `tvh_m2`. -/
namespace TypifyModel.C17
open TypifyModel TypifyModel.Render TypifyModel.Api

def hasDefaultArg (f : FieldS) : Bool :=
  f.serde.any fun a => match a with | .default | .defaultFn _ | .panics => true | _ => false

theorem fieldS_facts (st : Settings) (σ : Space) (tn : String) (isPub : Bool) (p : Field) :
    (fieldS st σ tn isPub p).1.name = p.name ∧ (fieldS st σ tn isPub p).1.ty = typeIdent st σ fuel p.ty ∧
    hasDefaultArg (fieldS st σ tn isPub p).1 = (match p.state with | .required => false | _ => true) := by
  refine ⟨fieldS_name .., fieldS_ty .., ?_⟩
  show (fieldSerde st σ tn p).1.any _ = _
  rw [fieldSerde_attrs, List.any_append, naming_any _ (fun _ => rfl) rfl, Bool.false_or]
  unfold stateArgs
  cases p.state with
  | required => rfl
  | optional => rfl
  | dflt d => dsimp only; cases defaultFn σ tn p.name p.ty d <;> rfl

/-- **C17: a struct's reported properties (names, required flags, types) are exactly its fields** -/
theorem api_props_eq_fields (tb : DeriveTables) (st : Settings) (σ : Space) (ent : Entry) (it : ItemS)
    (fns : List String) {n : String} {props : List Field} {deny : Bool} {d : Option Json}
    (hd : ent.details = .struct n props deny d) (h : itemOf tb st σ ent = some (it, fns)) :
    ∃ ps, details ent = .struct ps ∧
      it.fields.map (fun f => (f.name, !hasDefaultArg f, f.ty)) =
        ps.map (fun q => (q.1, q.2.1, typeIdent st σ fuel q.2.2)) ∧
      it.kind = "struct" ∧ it.fields.all (·.isPub) = true := by
  obtain ⟨det, ed, im⟩ := ent
  cases hd
  cases h
  refine ⟨_, rfl, ?_, rfl, ?_⟩
  · simp only [List.map_map]
    apply List.map_congr_left
    intro p _
    obtain ⟨h1, h2, h3⟩ := fieldS_facts st σ n true p
    simp only [Function.comp, h1, h2, h3]
    cases p.state <;> rfl
  · simp only [List.all_map, List.all_eq_true]
    intro p _
    rfl

def variantKind (v : VariantInfo) : String :=
  match v with | .simple => "unit" | .tuple _ => "tuple" | .struct _ => "struct"

/-- **C17: an enum's reported variants are exactly its variants** (names, kinds, struct-variant
    member names and types; payload types of tuple variants except the one-element tuple, see
    `Proofs/C17Findings.lean`) -/
theorem api_variants_eq (tb : DeriveTables) (st : Settings) (σ : Space) (ent : Entry) (it : ItemS)
    (fns : List String) {n : String} {tag : Tag} {vs : List Variant} {deny : Bool} {d : Option Json}
    {bes : List Bespoke} (hd : ent.details = .enum n tag vs deny d bes)
    (h : itemOf tb st σ ent = some (it, fns)) :
    ∃ infos, details ent = .enum infos ∧
      it.variants.map (fun v => (v.name, v.kind)) = infos.map (fun i => (i.1, variantKind i.2)) ∧
      (∀ (k : Nat) (v : Variant), vs[k]? = some v → ∀ vi : VariantS, it.variants[k]? = some vi →
        match v.details with
        | .simple => vi.tys = [] ∧ vi.fields = []
        | .item t => vi.tys = [typeIdent st σ fuel t]
        | .tuple [a] => vi.tys = ["(" ++ typeIdent st σ fuel a ++ ",)"]        -- API reports [a]
        | .tuple ts => vi.tys = ts.map (typeIdent st σ fuel)
        | .struct ps => vi.fields.map (fun f => (f.name, f.ty)) = ps.map (fun p => (p.name, typeIdent st σ fuel p.ty))) := by
  obtain ⟨det, ed, im⟩ := ent
  cases hd
  cases h
  refine ⟨_, rfl, ?_, ?_⟩
  · simp only [List.map_map]
    apply List.map_congr_left
    intro v _
    simp only [Function.comp, variantS]
    cases hv : v.details with
    | simple => rfl
    | item t => rfl
    | tuple ts => cases ts with
      | nil => rfl
      | cons a r => cases r <;> rfl
    | struct ps => rfl
  · intro k v hk vi hvi
    simp only [List.getElem?_map, hk, Option.map_some, Option.some.injEq] at hvi
    subst hvi
    simp only [variantS]
    cases hv : v.details with
    | simple => simp
    | item t => simp
    | tuple ts =>
      cases ts with
      | nil => simp
      | cons a r => cases r <;> simp
    | struct ps =>
      simp only [List.map_map]
      apply List.map_congr_left
      intro p _
      obtain ⟨h1, h2, _⟩ := fieldS_facts st σ (n ++ v.identName) false p
      simp only [Function.comp, h1, h2]

/-- **C17: a newtype's reported inner type is its field** -/
theorem api_inner_eq (tb : DeriveTables) (st : Settings) (σ : Space) (ent : Entry) (it : ItemS)
    (fns : List String) {n : String} {inner : Id} {c : Constraints} {d : Option Json}
    (hd : ent.details = .newtype n inner c d) (h : itemOf tb st σ ent = some (it, fns)) :
    details ent = .newtype inner ∧ it.fields.map (·.ty) = [typeIdent st σ fuel inner] ∧ it.kind = "newtype" := by
  obtain ⟨det, ed, im⟩ := ent
  cases hd
  cases h
  exact ⟨rfl, rfl, rfl⟩

/-- **C17: `builder()` is `Some` exactly when a builder type is emitted** (for the entry's item) -/
theorem builder_iff (tb : DeriveTables) (st : Settings) (σ : Space) (ent : Entry) (it : ItemS)
    (fns : List String) (h : itemOf tb st σ ent = some (it, fns)) :
    ((builder st ent).isSome = true ↔ ImplK.builderFn ∈ it.impls) ∧
    (∀ b, builder st ent = some b → b = it.name ∧ it.kind = "struct") := by
  obtain ⟨det, ed, im⟩ := ent
  unfold builder
  cases det <;> cases h
  case struct => cases st.structBuilder <;> simp
  case enum => cases st.structBuilder <;> simp [strTryFroms, not_mem_convenienceFrom]
  case newtype n inner c d => cases c <;> cases st.structBuilder <;> simp [strTryFroms]

def implK : Impl → ImplK
  | .default => .default
  | .fromStr => .fromStr
  | .display => .display

/-- the one place where the API over-claims (known finding C17-display) -/
def DisplayOverclaim (ent : Entry) (i : Impl) : Prop :=
  i = .display ∧ ∃ n inner mx mn pat d, ent.details = .newtype n inner (.string mx mn pat) d

/-- **C17: `has_impl(X)` true implies the emitted item implements X** — for every named type, except
    `Display` on length/pattern-constrained string newtypes (`has_impl_sound_full_false`). The
    recorded `impls` of the inner type must be what `has_impl` computes (checked on every dump). -/
theorem has_impl_sound_partial (tb : DeriveTables) (st : Settings) (σ : Space) (f : Nat) (t : Id)
    (ent : Entry) (it : ItemS) (fns : List String) (i : Impl)
    (hget : σ.get t = some ent) (h : itemOf tb st σ ent = some (it, fns))
    (hrec : ∀ n inner c d, ent.details = .newtype n inner c d →
      ∀ j, Render.hasImpl σ inner j = Api.hasImpl σ f inner j)
    (hno : ¬ DisplayOverclaim ent i)
    (hi : Api.hasImpl σ (f + 1) t i = true) : implK i ∈ it.impls := by
  obtain ⟨det, ed, im⟩ := ent
  simp only [Api.hasImpl, hget] at hi
  cases det <;> cases h
  case struct =>
    cases i <;> simp at hi
    simp [implK, hi]
  case enum =>
    cases i <;> simp at hi
    · rcases hi with hi | hi <;> simp [implK, hi]
    · rcases hi with hi | hi <;> simp [implK, hi]
    · simp [implK, hi]
  case newtype n inner c d =>
    have hr := hrec n inner c d rfl
    cases c with
    | none =>
      cases i <;> simp at hi
      · -- FromStr through the inner type
        by_cases hs : isStrInner σ inner = true
        · simp [implK, hs]
        · have : Render.hasImpl σ inner .fromStr = true := by rw [hr]; exact hi
          simp [implK, this, hs]
      · have : Render.hasImpl σ inner .display = true := by rw [hr]; exact hi
        simp [implK, this]
      · simp [implK, hi]
    | enumValues vs => cases i <;> simp at hi; simp [implK, hi]
    | denyValues vs => cases i <;> simp at hi; simp [implK, hi]
    | string mx mn pat =>
      cases i
      · simp [implK, strTryFroms]
      · exact absurd ⟨rfl, n, inner, mx, mn, pat, d, rfl⟩ hno
      · simp at hi; simp [implK, hi]

end TypifyModel.C17
