import TypifyModel.Proofs.Lemmas.Determinism
import TypifyModel.Generated.HashSites
import TypifyModel.Generated.Interior
/-! # C12 — the generated code depends only on the settings and the content of the schema document

What is proved here, for all inputs:

* parsing forgets the order of object members (`parse_perm`, `canon_perm`): a JSON object is read into
  a `BTreeMap` (the translator re-checks on every run that `preserve_order` is off,
  `no_preserve_order`), and building a `BTreeMap` from duplicate-key-free pairs gives the same map for
  every order of insertion;
* every way in which typify's own code observes a `HashMap`/`HashSet` gives the same answer for every
  iteration order of the collection (`unique_perm`, `len_perm`, `contains_perm`, `subset_perm`,
  `counts_perm`, `sorted_perm`, `keyed_insert_perm`), and the table of all hash-collection sites that
  the translator regenerates from the current source contains only such observations
  (`hash_sites_ok`). A new order-dependent iteration in the source makes `hash_sites_ok` fail;
* `to_stream` walks `BTreeMap`s: the render of a space does not depend on the order in which its
  entries were inserted (`render_pure`).

What is not proved: that the Rust standard library's hash collections behave like "a set/map with an
arbitrary iteration order" (`RandomState` is not modelled), and that the translator finds and
classifies every site correctly. Process-level repetition is exercised by the check (fresh processes,
permuted documents), not proved. -/
namespace TypifyModel.C12
open TypifyModel TypifyModel.Determinism

variable {K V α : Type}

/-- **Key order of the document text is irrelevant.** Inserting the members of an object into a
    `BTreeMap` gives the same map for every order of the members, provided no key is repeated. -/
theorem parse_perm [DecidableEq K] (o : LinOrd K) {xs ys : List (K × V)}
    (hp : xs.Perm ys) (hnd : NoDupKeys xs) : toMap o xs = toMap o ys :=
  insertMany_perm o hp hnd []

example : toMap strOrd [("b", 1), ("a", 2), ("c", 3)] = toMap strOrd [("c", 3), ("b", 1), ("a", 2)] :=
  parse_perm strOrd (by decide) (by unfold NoDupKeys; decide)

/-- the result is the in-order listing of a `BTreeMap`: strictly ascending keys -/
theorem parse_sorted [DecidableEq K] (o : LinOrd K) (xs : List (K × V)) : SortedKeys o (toMap o xs) :=
  insertMany_sorted o xs [] List.Pairwise.nil

example : toMap strOrd [("b", 1), ("a", 2), ("é", 4), ("c", 3)] = [("a", 2), ("b", 1), ("c", 3), ("é", 4)] := by
  decide

/-- the map has exactly the keys of the text -/
theorem parse_keys [DecidableEq K] (o : LinOrd K) (xs : List (K × V)) (k : K) :
    k ∈ (toMap o xs).map (·.1) ↔ k ∈ xs.map (·.1) := by
  unfold toMap; rw [mem_keys_insertMany]; simp

/-- **Duplicate keys**: the last occurrence in the text wins (serde_json's `MapAccess` loop calls
    `BTreeMap::insert` per member) … -/
theorem parse_dup_last_wins [DecidableEq K] (o : LinOrd K) (xs : List (K × V)) (k : K) (v : V) :
    lookup k (toMap o (xs ++ [(k, v)])) = some v := by
  rw [toMap, insertMany, List.foldl_append]
  exact lookup_insertSorted_self o k v _

/-- … so with a repeated key the order of the text *is* observable: the hypothesis `NoDupKeys` of
    `parse_perm` cannot be dropped. -/
theorem parse_dup_order_matters :
    toMap strOrd [("a", 1), ("a", 2)] ≠ toMap strOrd [("a", 2), ("a", 1)] := by decide

/-- **Nested documents.** Two documents that differ only in the order of object members, at any
    depth, and that repeat no key inside one object, are parsed to the same value. -/
theorem canon_perm {a b : Json} (h : JPerm a b) (hnd : noDupDeep a = true) :
    canon a = canon b ∧ noDupDeep b = true := by
  induction h with
  | refl j => exact ⟨rfl, hnd⟩
  | trans _ _ ih1 ih2 =>
    obtain ⟨e1, n1⟩ := ih1 hnd
    obtain ⟨e2, n2⟩ := ih2 n1
    exact ⟨e1.trans e2, n2⟩
  | arrCons _ _ ih1 ih2 =>
    rw [noDupDeep, noDupList, Bool.and_eq_true] at hnd
    obtain ⟨e1, n1⟩ := ih1 hnd.1
    obtain ⟨e2, n2⟩ := ih2 (by rw [noDupDeep]; exact hnd.2)
    rw [canon, canon, Json.arr.injEq] at e2
    rw [noDupDeep] at n2
    exact ⟨by rw [canon, canon, canonList, canonList, e1, e2],
      by rw [noDupDeep, noDupList, n1, n2]; rfl⟩
  | @objCons k v w r s _ _ ih1 ih2 =>
    rw [noDupDeep_obj, noDupMembers, Bool.and_eq_true] at hnd
    obtain ⟨hkr, hv, hm⟩ := hnd
    obtain ⟨e1, n1⟩ := ih1 hv
    obtain ⟨e2, n2⟩ := ih2 (noDupDeep_obj.mpr ⟨(List.nodup_cons.mp hkr).2, hm⟩)
    rw [canon, canon, Json.obj.injEq] at e2
    rw [noDupDeep_obj] at n2
    -- `r` and `s` have the same keys, those of the one map both are parsed to
    have hks : NoDupKeys ((k, w) :: s) := List.nodup_cons.mpr ⟨fun hmem => by
      rw [← canonMembers_keys, ← parse_keys strOrd, ← e2, parse_keys, canonMembers_keys] at hmem
      exact (List.nodup_cons.mp hkr).1 hmem, n2.1⟩
    have nd : ∀ {x : Json} {l}, NoDupKeys ((k, x) :: l) → NoDupKeys ((k, canon x) :: canonMembers l) :=
      fun h => by rw [NoDupKeys, List.map_cons, canonMembers_keys]; exact h
    refine ⟨?_, noDupDeep_obj.mpr ⟨hks, by rw [noDupMembers, n1, n2.2]; rfl⟩⟩
    rw [canon, canon, canonMembers, canonMembers, toMap_cons strOrd _ _ (nd hkr),
      toMap_cons strOrd _ _ (nd hks), e1, e2]
  | @objPerm kvs kvs' hp =>
    rw [noDupDeep_obj] at hnd
    refine ⟨?_, noDupDeep_obj.mpr ⟨hnd.1.perm hp, ?_⟩⟩
    · rw [canon, canon, canonMembers_eq_map, canonMembers_eq_map]
      exact congrArg Json.obj (parse_perm strOrd (hp.map _)
        (by rw [NoDupKeys, ← canonMembers_eq_map, canonMembers_keys]; exact hnd.1))
    · rw [noDupMembers_eq_all, ← hp.all_eq, ← noDupMembers_eq_all]; exact hnd.2

example :
    canon (.obj [("b", .arr [.obj [("y", .null), ("x", .num "1")]]), ("a", .str "s")]) =
    canon (.obj [("a", .str "s"), ("b", .arr [.obj [("x", .num "1"), ("y", .null)]])]) :=
  (canon_perm
    (.trans (.objPerm (List.Perm.swap _ _ _))
      (.objCons (.refl _) (.objCons (.arrCons (.objPerm (List.Perm.swap _ _ _)) (.refl _)) (.refl _))))
    (by decide)).1

/-- the `HashSet::insert`-all idiom (`util::unique`) computes "no element occurs twice" … -/
theorem unique_iff_nodup [DecidableEq α] (xs : List α) : unique xs = true ↔ xs.Nodup := by
  unfold unique; rw [insertAll_iff]; simp

/-- … which does not depend on the order of the items -/
theorem unique_perm [DecidableEq α] {xs ys : List α} (hp : xs.Perm ys) : unique xs = unique ys :=
  Bool.eq_iff_iff.mpr (((unique_iff_nodup xs).trans hp.nodup_iff).trans (unique_iff_nodup ys).symm)

example : unique ["A", "B", "A"] = false ∧ unique ["B", "A", "A"] = false ∧ unique ["A", "B"] = true := by
  decide

/-- every representation of the same set (any iteration order, i.e. any duplicate-free list with the
    same members) has the same length -/
theorem len_repr [DecidableEq α] (xs s : List α) (hs : s.Nodup) (hm : ∀ a, a ∈ s ↔ a ∈ xs) :
    s.length = hlen xs := by
  unfold hlen
  apply List.Perm.length_eq
  rw [List.perm_ext_iff_of_nodup hs (collectSet_nodup xs)]
  intro a; rw [mem_collectSet]; exact hm a

/-- `collect::<HashSet<_>>().len()` (`enums.rs`): the number of distinct items, for every order -/
theorem len_perm [DecidableEq α] {xs ys : List α} (hp : xs.Perm ys) : hlen xs = hlen ys :=
  len_repr ys (collectSet xs) (collectSet_nodup xs) fun a => (mem_collectSet xs a).trans hp.mem_iff

example : hlen ["A", "B", "A", "C"] = 3 ∧ hlen ["C", "A", "A", "B"] = 3 := by decide

/-- keyed lookups (`contains`, `contains_key`, `get`) -/
theorem contains_perm [DecidableEq α] {xs ys : List α} (hp : xs.Perm ys) (a : α) :
    contains xs a = contains ys a := by
  unfold contains
  exact decide_eq_decide.mpr hp.mem_iff

example : contains [3, 1, 2] 2 = contains [1, 2, 3] 2 := contains_perm (by decide) 2

/-- `BTreeMap::get` after keyed inserts in any order -/
theorem lookup_perm [DecidableEq K] (o : LinOrd K) {xs ys : List (K × V)}
    (hp : xs.Perm ys) (hnd : NoDupKeys xs) (k : K) : lookup k (toMap o xs) = lookup k (toMap o ys) := by
  rw [parse_perm o hp hnd]

/-- `counts.entry(k).and_modify(|n| *n += 1).or_insert(0)` over all items, then `counts.get(k)`
    (`type_entry.rs`, the duplicate-variant-name panic message) -/
theorem counts_perm [DecidableEq α] {xs ys : List α} (hp : xs.Perm ys) (k : α) :
    counts xs k = counts ys k := by
  unfold counts; rw [hp.count_eq k]

example : counts ["A", "B", "A"] "A" = some 1 ∧ counts ["A", "B", "A"] "C" = none := by decide

/-- `a.is_subset(&b)` (`util.rs`, mutual exclusivity of object schemas) -/
theorem subset_perm [DecidableEq α] {xs xs' ys ys' : List α} (hx : xs.Perm xs') (hy : ys.Perm ys') :
    isSubset xs ys = isSubset xs' ys' := by
  unfold isSubset
  rw [hx.all_eq]
  congr 1
  funext a
  exact decide_eq_decide.mpr hy.mem_iff

example : isSubset [("t", "a")] [("u", "b"), ("t", "a")] = true ∧ isSubset [("t", "a")] [("t", "b")] = false := by
  decide

/-- **Sorting erases the iteration order**: insertion sort over a linear order returns the same list
    for every permutation of its input (elements that compare equal both ways are identical, so there
    is no stability question). -/
theorem sorted_perm (o : LinOrd α) {xs ys : List α} (hp : xs.Perm ys) :
    insertionSort o xs = insertionSort o ys := by
  induction hp with
  | nil => rfl
  | cons x _ ih => simp only [insertionSort, ih]
  | swap x y l => simp only [insertionSort]; exact orderedInsert_comm o y x _
  | trans _ _ ih1 ih2 => exact ih1.trans ih2

/-- and it is a sort: an ordered permutation of the input -/
theorem sorted_is_sort (o : LinOrd α) (xs : List α) :
    Sorted o (insertionSort o xs) ∧ (insertionSort o xs).Perm xs :=
  ⟨insertionSort_sorted o xs, insertionSort_perm_self o xs⟩

example : insertionSort strOrd ["b", "c", "a"] = ["a", "b", "c"] ∧ sortedIter natOrd [3, 1, 2] = [1, 2, 3] := by
  decide

/-- iteration of a `HashMap` whose body only performs `BTreeMap::insert(key(k), f(k, v))` with `key`
    injective on the map's keys (typify-macro: `patch` and `replace` are written into
    `TypeSpaceSettings` this way, `key` being the token text of the identifier): the resulting
    `BTreeMap` is the same for every iteration order. -/
theorem keyed_insert_perm {K' V' : Type} [DecidableEq K] [DecidableEq K'] (o : LinOrd K')
    (key : K → K') (f : K → V → V') (hinj : ∀ a b, key a = key b → a = b)
    {xs ys : List (K × V)} (hp : xs.Perm ys) (hnd : NoDupKeys xs) :
    toMap o (xs.map fun kv => (key kv.1, f kv.1 kv.2)) = toMap o (ys.map fun kv => (key kv.1, f kv.1 kv.2)) := by
  refine parse_perm o (hp.map _) (List.pairwise_map.mpr (List.pairwise_map.mpr ?_))
  exact (List.pairwise_map.mp hnd).imp fun hab h => hab (hinj _ _ h)

/-- without injectivity it is not: two names for one original crate, `key` = the original crate's name (the shape of the
    macro's `crates` setting, which typify-macro keeps in a `BTreeMap`) -/
theorem keyed_insert_not_injective :
    toMap strOrd ([("aaa", "orig"), ("bbb", "orig")].map fun kv => (kv.2, kv.1)) ≠
    toMap strOrd ([("bbb", "orig"), ("aaa", "orig")].map fun kv => (kv.2, kv.1)) := by decide

/-- **Every `HashMap`/`HashSet` value in the current source of typify-impl, typify-macro,
    cargo-typify and typify is observed only through operations whose answer is independent of the
    iteration order** (the theorems above, one per consumer kind). The table is regenerated by the
    translator on every run; an order-dependent iteration or an unclassifiable use is a row with
    `.iterate` / `.unknown` and breaks this theorem. -/
theorem hash_sites_ok :
    ∀ s ∈ Generated.hashSites, s.consumers ≠ [] ∧ ∀ c ∈ s.consumers, c ∈ orderFree := by
  decide

example : Generated.hashSites ≠ [] := by decide

/-- `serde_json::Map` and `schemars::Map` are `BTreeMap`: no manifest and no lock-file entry enables
    `preserve_order` (re-checked by the translator) -/
theorem no_preserve_order : Generated.preserveOrder = false := by decide

/-- **`to_stream` iterates `BTreeMap`s.** The model's render is a function of the entry map, and the
    map does not remember the order in which entries with distinct ids were inserted; calling it
    twice on the same space is literally the same term (`rfl`). What is *not* modelled: that std's
    `HashMap`/`HashSet` with `RandomState` really is "a collection with an arbitrary iteration order"
    and nothing else, and OS/process state in general — repeated processes are exercised, not proved. -/
theorem render_pure {T : Type} {xs ys : List (Nat × List T)} (hp : xs.Perm ys) (hnd : NoDupKeys xs) :
    render xs = render ys ∧ render xs = render xs := by
  unfold render
  rw [parse_perm natOrd hp hnd]
  exact ⟨rfl, rfl⟩

example : render [(2, ["struct", "B"]), (1, ["struct", "A"])] = ["struct", "A", "struct", "B"] := by decide

/-- **Nothing reachable from `&self` can change between two renderings.** `to_stream(&self)`, `to_tokens` and every
    function they call receive the type space by shared reference. The table T5b, regenerated from the current source
    of all four crates (non-test, hooks excluded), lists every mention of a type built on `UnsafeCell` (`Cell`,
    `RefCell`, `OnceCell`, `Mutex`, atomics, ...), every `static mut`, thread-local and lazily initialised static, and
    every `unsafe` block, fn or impl; it is empty. In safe Rust without such a construct a `&T` gives no write access
    to anything it reaches (the aliasing rule the compiler enforces — trusted, not modelled), so the model's
    rendering being a function of the space (`render_pure`) is faithful for repeated calls. A `RefCell` cache, a
    counter in a `static`, or an `unsafe` write added to the source re-opens this obligation. -/
theorem no_hidden_state :
    Generated.interiorSites = [] ∧ Generated.unsafeSites = [] ∧ Generated.interiorUnparsed = [] ∧
    0 < Generated.interiorFilesScanned := by decide

end TypifyModel.C12
