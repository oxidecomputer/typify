import TypifyModel.Model.Builder
/-! # C18 — the builder interface constructs exactly the valid structs

∀ IR, ∀ property lists, ∀ choices of setters and argument values. `Model/Builder.lean` is the state
machine of the emitted `builder::T`; `Serde.deStruct` is what deserialization of an object does.
Tie to the compiled code: M3 ops `build` / `unbuild` of `./check C18`. -/
namespace TypifyModel.C18
open TypifyModel TypifyModel.Serde TypifyModel.Builder

/-- **C18: struct → builder → struct is the identity** -/
theorem build_unbuild (fs : List (String × Val)) : build (unbuild fs) = .ok fs := by
  induction fs with
  | nil => rfl
  | cons a r ih =>
    simp only [unbuild, List.map_cons, build] at ih ⊢
    rw [ih]

/-- the build succeeds exactly when every slot holds a value -/
theorem build_ok_iff (sl : List (String × Slot)) :
    (∃ fs, build sl = .ok fs) ↔ ∀ s ∈ sl, ∃ v, s.2 = .ok v := by
  induction sl with
  | nil => simp [build]
  | cons a r ih =>
    obtain ⟨n, s⟩ := a
    cases s with
    | error m => simp [build]
    | ok v =>
      simp only [build, List.mem_cons, forall_eq_or_imp, ← ih]
      cases build r <;> simp

/-- a slot produced by `slots` holds a value iff its setter was given a convertible value, or was
    not called and the property has a default -/
def SlotOk (choice : Field → Option Arg) (p : Field) : Prop :=
  (∃ v, choice p = some (.value v)) ∨ (choice p = none ∧ hasDefaultAttr p = true)

/-- a slot exists only if the property's default expression evaluated (`Default for builder::T` runs all
    of them); it then holds the setter's outcome, or that default when the setter was not called -/
theorem slotOf_ok {x : Ext} {σ : Space} {fuel : Nat} {choice : Field → Option Arg} {p : Field} {s : Slot}
    (h : slotOf x σ fuel choice p = .ok s) :
    (∃ a, choice p = some a ∧ s = setSlot p.name a) ∨
      (choice p = none ∧ initSlot x σ fuel p = .ok s) := by
  unfold slotOf at h
  split at h
  · cases h
  · split at h <;> cases h
    · exact .inl ⟨_, ‹_›, rfl⟩
    · exact .inr ⟨‹_›, ‹_›⟩

theorem initSlot_ok {x : Ext} {σ : Space} {fuel : Nat} {p : Field} {s : Slot}
    (h : initSlot x σ fuel p = .ok s) :
    (p.state matches .required ∧ hasDefaultAttr p = false ∧
        s = .error ("no value supplied for " ++ p.name)) ∨
      (hasDefaultAttr p = true ∧ ∃ v, s = .ok v) := by
  unfold initSlot at h
  unfold hasDefaultAttr
  split at h
  · cases h; exact .inl ⟨by simp [*], by simp [*], rfl⟩
  · split at h <;> cases h; exact .inr ⟨by simp [*], _, rfl⟩
  · split at h <;> cases h; exact .inr ⟨by simp [*], _, rfl⟩

theorem slot_ok_iff {x : Ext} {σ : Space} {fuel : Nat} {choice : Field → Option Arg} {p : Field}
    {s : Slot} (hs : slotOf x σ fuel choice p = .ok s) : (∃ v, s = .ok v) ↔ SlotOk choice p := by
  unfold SlotOk
  rcases slotOf_ok hs with ⟨a, hc, rfl⟩ | ⟨hc, hi⟩
  · cases a <;> simp [hc, setSlot]
  · rcases initSlot_ok hi with ⟨_, hd, rfl⟩ | ⟨hd, v, rfl⟩ <;> simp [hc, hd]

theorem slot_error {x : Ext} {σ : Space} {fuel : Nat} {choice : Field → Option Arg} {p : Field}
    {m : String} (hs : slotOf x σ fuel choice p = .ok (.error m)) :
    (choice p = none ∧ p.state matches .required ∧ m = "no value supplied for " ++ p.name) ∨
      (∃ msg, choice p = some (.convFail msg) ∧
        m = "error converting supplied value for " ++ p.name ++ ": " ++ msg) := by
  rcases slotOf_ok hs with ⟨a, hc, hsa⟩ | ⟨hc, hi⟩
  · cases a with
    | value w => cases hsa
    | convFail msg => cases hsa; exact .inr ⟨msg, hc, rfl⟩
  · rcases initSlot_ok hi with ⟨hst, _, he⟩ | ⟨_, v, he⟩
    · cases he; exact .inl ⟨hc, hst, rfl⟩
    · cases he

theorem slots_cons {x : Ext} {σ : Space} {fuel : Nat} {choice : Field → Option Arg} {p : Field}
    {ps : List Field} {sl : List (String × Slot)} (h : slots x σ fuel choice (p :: ps) = .ok sl) :
    ∃ s rest, slotOf x σ fuel choice p = .ok s ∧ slots x σ fuel choice ps = .ok rest ∧
      sl = (p.name, s) :: rest := by
  simp only [slots] at h
  split at h <;> cases h
  exact ⟨_, _, ‹_›, ‹_›, rfl⟩

theorem slots_ok (x : Ext) (σ : Space) (fuel : Nat) (choice : Field → Option Arg) :
    ∀ (ps : List Field) (sl : List (String × Slot)), slots x σ fuel choice ps = .ok sl →
      ((∀ s ∈ sl, ∃ v, s.2 = .ok v) ↔ ∀ p ∈ ps, SlotOk choice p) := by
  intro ps
  induction ps with
  | nil => intro sl h; cases h; simp
  | cons p r ih =>
    intro sl h
    obtain ⟨s, rest, hs, hr, rfl⟩ := slots_cons h
    simp only [List.mem_cons, forall_eq_or_imp, ih rest hr, slot_ok_iff hs]

/-- **C18: converting a builder into the struct succeeds exactly when every property without a
    default has been set and every supplied value converted** -/
theorem build_ok_iff_set (x : Ext) (σ : Space) (fuel : Nat) (choice : Field → Option Arg)
    (ps : List Field) (sl : List (String × Slot)) (h : slots x σ fuel choice ps = .ok sl) :
    (∃ fs, build sl = .ok fs) ↔ ∀ p ∈ ps, SlotOk choice p := by
  rw [build_ok_iff, slots_ok x σ fuel choice ps sl h]

/-- **C18: a failing build names the property**: the error is either "no value supplied for p" of
    an unset property without default, or the conversion error of a setter, prefixed with p's name -/
theorem build_error_names_prop (x : Ext) (σ : Space) (fuel : Nat) (choice : Field → Option Arg) :
    ∀ (ps : List Field) (sl : List (String × Slot)) (m : String),
      slots x σ fuel choice ps = .ok sl → build sl = .error m →
      ∃ p ∈ ps, (choice p = none ∧ p.state matches .required ∧ m = "no value supplied for " ++ p.name) ∨
        (∃ msg, choice p = some (.convFail msg) ∧
          m = "error converting supplied value for " ++ p.name ++ ": " ++ msg) := by
  intro ps
  induction ps with
  | nil => intro sl m h hb; cases h; cases hb
  | cons p r ih =>
    intro sl m h hb
    obtain ⟨s, rest, hs, hr, rfl⟩ := slots_cons h
    simp only [build] at hb
    cases s with
    | error msg => cases hb; exact ⟨p, by simp, slot_error hs⟩
    | ok v =>
      simp only at hb
      cases hbr : build rest with
      | ok fs => rw [hbr] at hb; cases hb
      | error m' =>
        rw [hbr] at hb; cases hb
        obtain ⟨q, hq, hcase⟩ := ih rest _ hr hbr
        exact ⟨q, List.mem_cons_of_mem _ hq, hcase⟩

/-- how the caller's choices relate to a JSON object with the same members: a property is either
    set to the value its JSON member deserializes to, or neither set nor present -/
def Agree (x : Ext) (σ : Space) (f : Nat) (choice : Field → Option Arg) (L : Field → Option Json)
    (p : Field) : Prop :=
  (∃ j v, L p = some j ∧ de x σ f p.ty j = .ok v ∧ choice p = some (.value v)) ∨
  (L p = none ∧ choice p = none ∧ (p.state matches .required → optionLikeT σ p.ty = false))

/-- the per-member step of `deStruct` on an object, with the member lookup abstracted -/
def memberDe (x : Ext) (σ : Space) (f : Nat) (L : Field → Option Json) (p : Field) : Except E (String × Val) :=
  match L p with
  | some v => (match de x σ f p.ty v with | .ok a => .ok (p.name, a) | .error e => .error e)
  | none =>
    match p.state with
    | .required => if optionLikeT σ p.ty then .ok (p.name, Val.none) else .error .reject
    | .optional => (match dflt x σ f p.ty with | .ok a => .ok (p.name, a) | .error e => .error e)
    | .dflt d => (match de x σ f p.ty d with
        | .ok a => .ok (p.name, a)
        | .error .reject => .error .unsupported
        | .error e => .error e)

theorem slot_member {x : Ext} {σ : Space} {f : Nat} {choice : Field → Option Arg}
    {L : Field → Option Json} {p : Field} {s : Slot}
    (hs : slotOf x σ f choice p = .ok s) (hag : Agree x σ f choice L p) :
    memberDe x σ f L p = (match s with | .ok v => .ok (p.name, v) | .error _ => .error .reject) := by
  unfold memberDe
  rcases hag with ⟨j, v, hL, hde, hc⟩ | ⟨hL, hc, hreq⟩
  · rcases slotOf_ok hs with ⟨a, hc', rfl⟩ | ⟨hc', _⟩
    · cases hc.symm.trans hc'
      simp only [hL, hde, setSlot]
    · cases hc.symm.trans hc'
  · rcases slotOf_ok hs with ⟨a, hc', _⟩ | ⟨_, hi⟩
    · cases hc.symm.trans hc'
    · -- neither set nor present: both sides evaluate the default
      unfold initSlot at hi
      rw [hL]
      cases hst : p.state with
      | required =>
        rw [hst] at hi; cases hi
        simp only [hreq (by rw [hst]), Bool.false_eq_true, if_false]
      | optional => rw [hst] at hi; simp only at hi ⊢; split at hi <;> cases hi; simp only [*]
      | dflt d => rw [hst] at hi; simp only at hi ⊢; split at hi <;> cases hi; simp only [*]

theorem build_eq_members (x : Ext) (σ : Space) (f : Nat) (choice : Field → Option Arg)
    (L : Field → Option Json) :
    ∀ (ps : List Field) (sl : List (String × Slot)), slots x σ f choice ps = .ok sl →
      (∀ p ∈ ps, Agree x σ f choice L p) →
      (match build sl with
       | .ok fs => mapM' (memberDe x σ f L) ps = .ok fs
       | .error _ => mapM' (memberDe x σ f L) ps = .error .reject) := by
  intro ps
  induction ps with
  | nil => intro sl h _; cases h; rfl
  | cons p r ih =>
    intro sl h hag
    obtain ⟨s, rest, hs, hr, rfl⟩ := slots_cons h
    have ihr := ih rest hr (fun q hq => hag q (List.mem_cons_of_mem _ hq))
    simp only [build, mapM', slot_member hs (hag p (by simp))]
    cases s with
    | error m => rfl
    | ok v =>
      simp only
      cases hb : build rest <;> rw [hb] at ihr <;> simp only at ihr ⊢ <;> rw [ihr]

/-- **C18: the built value equals what deserializing an object with the same members gives**
    (open struct without flattened members; the object's members are looked up by wire name) -/
theorem build_eq_de (x : Ext) (σ : Space) (f : Nat) (choice : Field → Option Arg)
    (ps : List Field) (kvs : List (String × Json)) (sl : List (String × Slot))
    (hfl : hasFlatten ps = false)
    (h : slots x σ f choice ps = .ok sl)
    (hag : ∀ p ∈ ps, Agree x σ f choice (fun p => Json.lookup kvs p.wire) p) :
    (match build sl with
     | .ok fs => deStruct x σ (f + 1) ps false (.obj kvs) = .ok (.struct fs)
     | .error _ => deStruct x σ (f + 1) ps false (.obj kvs) = .error .reject) := by
  have key := build_eq_members x σ f choice (fun p => Json.lookup kvs p.wire) ps sl h hag
  have hds : deStruct x σ (f + 1) ps false (.obj kvs) =
      (match mapM' (memberDe x σ f (fun p => Json.lookup kvs p.wire)) ps with
       | .ok fs => .ok (.struct fs)
       | .error e => .error e) := by
    rw [deStruct]
    simp only [hfl, Bool.false_and, Bool.false_eq_true, if_false]
    rfl
  rw [hds]
  cases hb : build sl <;> rw [hb] at key <;> simp only at key ⊢ <;> rw [key]

example : build (unbuild [("a", .int 1)]) = .ok [("a", .int 1)] := by rfl
example : build [("a", .error "no value supplied for a")] = .error "no value supplied for a" := by rfl

end TypifyModel.C18
