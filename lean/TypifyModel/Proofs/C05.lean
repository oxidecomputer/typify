import TypifyModel.Model.Render
import TypifyModel.Proofs.Lemmas.RenderLemmas
/-! # C05 — constraints represented in a generated type cannot be bypassed

Soundness of `de` with respect to each represented constraint, ∀ IR ∀ JSON: whenever
deserialization succeeds the constraint holds of the document (contrapositive: a document violating
it is rejected). `FromStr`/`TryFrom` agreeing with `Deserialize` is C11's `base_fromstr_eq_de`.
The absence of a public constructor or field is a theorem about the Render model. -/
namespace TypifyModel.C05
open TypifyModel TypifyModel.Serde

/-- the length checks count Unicode scalar values -/
theorem charCount_eq_length (s : String) : charCount s = s.length := by
  unfold charCount; simp [String.length_toList]

/-- the shape behind the three theorems below -/
theorem de_newtype_ok {x : Ext} {σ : Space} {f : Nat} {t : Id} {n : String} {inner : Id}
    {c : Constraints} {d : Option Json} {ed : List String} {im : List Impl} {j : Json} {v : Val}
    (hget : σ.get t = some ⟨.newtype n inner c d, ed, im⟩) (h : de x σ (f + 1) t j = .ok v) :
    match c with
    | .none => True
    | .string mx mn pat => ∃ s, v = .str s ∧ checkString x mx mn pat s = true
    | .enumValues vs => ∃ cs, mapM' (de x σ f inner) vs = .ok cs ∧ cs.any (· == v) = true
    | .denyValues vs => ∃ cs, mapM' (de x σ f inner) vs = .ok cs ∧ cs.any (· == v) = false := by
  simp only [de, hget] at h
  split at h
  · cases h
  · cases c with
    | none => trivial
    | string mx mn pat =>
      simp only at h
      split at h
      · split at h <;> cases h
        exact ⟨_, rfl, ‹_›⟩
      · cases h
    | enumValues vs =>
      simp only at h
      split at h
      · cases h
      · cases h
      · split at h <;> cases h
        exact ⟨_, ‹_›, ‹_›⟩
    | denyValues vs =>
      simp only at h
      split at h
      · cases h
      · cases h
      · split at h <;> cases h
        exact ⟨_, ‹_›, Bool.eq_false_iff.mpr ‹_›⟩

/-- **minLength / maxLength / pattern** -/
theorem string_constraints_enforced (x : Ext) (σ : Space) (f : Nat) (t : Id) {n : String} {inner : Id}
    {mx mn : Option Nat} {pat : Option String} {d : Option Json} {ed : List String} {im : List Impl}
    (hget : σ.get t = some ⟨.newtype n inner (.string mx mn pat) d, ed, im⟩)
    (j : Json) (v : Val) (h : de x σ (f + 1) t j = .ok v) :
    ∃ s, v = .str s ∧ (∀ m, mx = some m → s.length ≤ m) ∧ (∀ m, mn = some m → m ≤ s.length) ∧
      (∀ p, pat = some p → x.regex p s = true) := by
  obtain ⟨s, rfl, hc⟩ := de_newtype_ok hget h
  simp only [checkString, Bool.and_eq_true, charCount_eq_length] at hc
  refine ⟨s, rfl, ?_, ?_, ?_⟩
  · rintro m rfl; simpa using hc.1.1
  · rintro m rfl; simpa using hc.1.2
  · rintro p rfl; exact hc.2

/-- **membership in enumerated values (typed non-string enums)** -/
theorem enum_values_enforced (x : Ext) (σ : Space) (f : Nat) (t : Id) {n : String} {inner : Id}
    {vs : List Json} {d : Option Json} {ed : List String} {im : List Impl}
    (hget : σ.get t = some ⟨.newtype n inner (.enumValues vs) d, ed, im⟩)
    (j : Json) (v : Val) (h : de x σ (f + 1) t j = .ok v) :
    ∃ cs, mapM' (de x σ f inner) vs = .ok cs ∧ cs.any (· == v) = true :=
  de_newtype_ok hget h

/-- **`not enum` deny lists** -/
theorem deny_values_enforced (x : Ext) (σ : Space) (f : Nat) (t : Id) {n : String} {inner : Id}
    {vs : List Json} {d : Option Json} {ed : List String} {im : List Impl}
    (hget : σ.get t = some ⟨.newtype n inner (.denyValues vs) d, ed, im⟩)
    (j : Json) (v : Val) (h : de x σ (f + 1) t j = .ok v) :
    ∃ cs, mapM' (de x σ f inner) vs = .ok cs ∧ cs.any (· == v) = false :=
  de_newtype_ok hget h

theorem mapM'_mem {α β : Type} {g : α → Except E β} :
    ∀ {l : List α} {bs : List β}, mapM' g l = .ok bs → ∀ a ∈ l, ∃ b, g a = .ok b := by
  intro l
  induction l with
  | nil => intro _ _ a ha; simp at ha
  | cons a r ih =>
    intro bs h b hb
    simp only [mapM'] at h
    split at h
    · simp at h
    · rename_i b' hb'
      split at h
      · simp at h
      · rename_i bs' hbs
        simp only [List.mem_cons] at hb
        rcases hb with rfl | hb
        · exact ⟨b', hb'⟩
        · exact ih hbs b hb

/-- **required properties and closed objects**: a struct read from a JSON object has every
    required member (unless its type reads a missing member as `None`) and, when closed, no member
    outside the declared ones -/
theorem struct_object_enforced (x : Ext) (σ : Space) (f : Nat) (ps : List Field) (deny : Bool)
    (kvs : List (String × Json)) (v : Val) (hfl : hasFlatten ps = false)
    (h : deStruct x σ (f + 1) ps deny (.obj kvs) = .ok v) :
    (∀ p ∈ ps, (p.state matches .required) → optionLikeT σ p.ty = false → (Json.lookup kvs p.wire).isSome) ∧
    (deny = true → ∀ kv ∈ kvs, ∃ p ∈ ps, p.wire = kv.1) := by
  simp only [deStruct, hfl, Bool.false_eq_true, if_false] at h
  split at h
  · cases h
  · rename_i hdeny
    constructor
    · intro p hp hreq hopt
      split at h
      · rename_i fs hfs
        obtain ⟨b, hb⟩ := mapM'_mem hfs p hp
        cases hl : Json.lookup kvs p.wire with
        | some j => rfl
        | none =>
          rw [hl] at hb; simp only at hb
          split at hreq
          · rename_i hst; rw [hst] at hb; simp [hopt] at hb
          · cases hreq
      · cases h
    · rintro rfl kv hkv
      by_cases hp : ps.any (fun p => p.wire == kv.1) = true
      · obtain ⟨p, hpm, hw⟩ := List.any_eq_true.mp hp
        exact ⟨p, hpm, beq_iff_eq.mp hw⟩
      · -- else `kv` is an undeclared member: rejected
        refine absurd ?_ hdeny
        rw [Bool.true_and, List.any_eq_true]
        exact ⟨kv, hkv, by simpa using hp⟩

theorem zipM_length {g : Id → Json → Except E Val} :
    ∀ {ts : List Id} {xs : List Json} {vs : List Val}, zipM g ts xs = .ok vs → xs.length = ts.length := by
  intro ts
  induction ts with
  | nil => intro xs vs h; cases xs <;> simp [zipM] at h ⊢
  | cons t r ih =>
    intro xs vs h
    cases xs with
    | nil => simp [zipM] at h
    | cons j js =>
      simp only [zipM] at h
      split at h
      · simp at h
      · split at h
        · simp at h
        · rename_i vs' hvs
          simp [ih hvs]

/-- **fixed tuple length** -/
theorem tuple_arity_enforced (x : Ext) (σ : Space) (f : Nat) (t : Id) {ts : List Id} {ed : List String}
    {im : List Impl} (hget : σ.get t = some ⟨.tuple ts, ed, im⟩) (j : Json) (v : Val)
    (h : de x σ (f + 1) t j = .ok v) : ∃ xs, j = .arr xs ∧ xs.length = ts.length := by
  simp only [de, hget] at h
  split at h
  · rename_i xs
    split at h
    · rename_i vs hz; exact ⟨xs, rfl, zipM_length hz⟩
    · simp at h
  · simp at h

/-- **fixed array length** -/
theorem array_len_enforced (x : Ext) (σ : Space) (f : Nat) (t : Id) {t' : Id} {n : Nat} {ed : List String}
    {im : List Impl} (hget : σ.get t = some ⟨.array t' n, ed, im⟩) (j : Json) (v : Val)
    (h : de x σ (f + 1) t j = .ok v) : ∃ xs, j = .arr xs ∧ xs.length = n := by
  simp only [de, hget] at h
  split at h
  · rename_i xs
    split at h
    · rename_i hl; exact ⟨xs, rfl, hl⟩
    · simp at h
  · simp at h

/-- **the JSON type of scalars** -/
theorem scalar_type_enforced (x : Ext) (σ : Space) (f : Nat) (t : Id) (ent : Entry)
    (hget : σ.get t = some ent) (j : Json) (v : Val) (h : de x σ (f + 1) t j = .ok v) :
    (ent.details matches .string → ∃ s, j = .str s) ∧
    (ent.details matches .boolean → ∃ b, j = .bool b) ∧
    (ent.details matches .unit → j = .null) ∧
    (∀ name, ent.details = .integer name → ∃ n ty, j = .int n ∧ rtyOfName name = some ty ∧ ty.inRange n) := by
  refine ⟨?_, ?_, ?_, ?_⟩
  · intro hd
    split at hd
    · rename_i hdd
      simp only [de, hget, hdd] at h
      split at h
      · exact ⟨_, rfl⟩
      · cases h
    · cases hd
  · intro hd
    split at hd
    · rename_i hdd
      simp only [de, hget, hdd] at h
      split at h
      · exact ⟨_, rfl⟩
      · cases h
    · cases hd
  · intro hd
    split at hd
    · rename_i hdd
      simp only [de, hget, hdd] at h
      split at h
      · rfl
      · cases h
    · cases hd
  · intro name hd
    simp only [de, hget, hd] at h
    split at h
    · cases h
    · rename_i ty hty
      split at h
      · split at h
        · exact ⟨_, ty, rfl, hty, ‹_›⟩
        · cases h
      · cases h

/-- **tag values of tagged unions (external tagging, string form)**: a JSON string is accepted only
    if it is the serde name of a data-less variant -/
theorem external_tag_enforced (x : Ext) (σ : Space) (f : Nat) (t : Id) {n : String} {vs : List Variant}
    {deny : Bool} {d : Option Json} {bes : List Bespoke} {ed : List String} {im : List Impl}
    (hget : σ.get t = some ⟨.enum n .external vs deny d bes, ed, im⟩) (s : String) (v : Val)
    (h : de x σ (f + 1) t (.str s) = .ok v) :
    ∃ (i : Nat) (vr : Variant), vs[i]? = some vr ∧ vr.rawName = s ∧ vr.details matches .simple := by
  simp only [de, hget] at h
  split at h
  · simp at h
  · rename_i i hi
    have hf := List.findIdx?_eq_some_iff_getElem.mp hi
    obtain ⟨hlt, hw, _⟩ := hf
    have hv : vs[i]? = some vs[i] := List.getElem?_eq_getElem hlt
    rw [hv] at h
    split at h
    · rename_i raw ident heq
      simp only [Option.some.injEq] at heq
      refine ⟨i, vs[i], hv, ?_, ?_⟩
      · have := Variant.wire_eq_raw vs[i]
        simp only [beq_iff_eq] at hw
        rw [← this]; exact hw
      · rw [heq]
    · simp at h

/-- **no public constructor or field lets a caller build a violating value**: a constrained newtype
    is emitted with a private field and without `From<inner>`; the only ways in are the checked ones -/
theorem no_backdoor (tb : Render.DeriveTables) (st : Render.Settings) (σ : Space) (ent : Entry)
    (it : Render.ItemS) (fns : List String) {n : String} {inner : Id} {c : Constraints} {d : Option Json}
    (hd : ent.details = .newtype n inner c d) (hc : Render.isConstrained c = true)
    (h : Render.itemOf tb st σ ent = some (it, fns)) :
    (it.fields.all (fun fl => !fl.isPub)) = true ∧ (∀ ty, Render.ImplK.fromInner ty ∉ it.impls) ∧
    Render.ImplK.deserialize ∈ it.impls ∧ "::serde::Deserialize" ∉ Render.newtypeDerives tb (Render.isStrInner σ inner) true := by
  unfold Render.itemOf at h
  rw [hd] at h
  simp only [Option.some.injEq, Prod.mk.injEq] at h
  obtain ⟨rfl, _⟩ := h
  refine ⟨by simp [hc], ?_, ?_, Render.deser_not_mem_constrained⟩
  · intro ty hm
    cases c <;> simp [Render.isConstrained] at hc <;> simp [Render.strTryFroms] at hm
  · cases c <;> simp [Render.isConstrained] at hc <;> simp [Render.strTryFroms]

end TypifyModel.C05
