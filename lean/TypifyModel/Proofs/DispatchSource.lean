import TypifyModel.Model.Dispatch
import TypifyModel.Generated.DispatchArms
/-! The hand-written reading of `convert_schema_object`'s match (`Model/Dispatch.lean`) against the match AS WRITTEN
    (`Generated/DispatchArms.lean`, translator table T11, regenerated from /repo on every run).

    A source arm is interpreted as a Boolean guard over (how the `type` keyword is written, which keyword groups are present):
    `None` ↦ absent, `Some(..)` ↦ present, `_` / binding / `..` ↦ true, `Some(Single(..))` / `Some(Vec(..))` ↦ the spelling of the
    type; the guards as written are read by exact text (`single.as_ref() == &InstanceType::X`, the two-element-with-null test,
    the all-seven-types test, the one-element test). A pattern or guard outside this vocabulary has NO interpretation and the
    theorems below stop checking.

    `source_arms_as_read` compares the texts; every other theorem speaks of the arms as read (`expectedArms`): their guards are the
    model's (`typed_arms_guards`, `rewrite_arms_first`), hence the first arm that matches is the arm the model takes
    (`source_first_match`); the calls and the nested match over the subschema keywords are compared separately. -/
set_option linter.unusedSimpArgs false  -- one simp set serves the cases of a `cases ty`, each using part of it
namespace TypifyModel.Dispatch
open TypifyModel TypifyModel.Excl TypifyModel.Generated

/-- how the `type` keyword is written, as far as the match can tell -/
inductive TyAbs where
  | none
  | single (t : JT)
  | multi (twoWithNull allSeven oneElem : Bool)
deriving DecidableEq, Repr

def fpB (p : FP) (present : Bool) : Option Bool :=
  match p with
  | .isNone => some (!present)
  | .isSome => some present
  | .any => some true
  | _ => none

def itB (p : FP) (ty : TyAbs) : Option Bool :=
  match p, ty with
  | .any, _ => some true
  | .isNone, .none => some true
  | .isNone, _ => some false
  | .isSome, .none => some false
  | .isSome, _ => some true
  | .single, .single _ => some true
  | .single, _ => some false
  | .vec, .multi _ _ _ => some true
  | .vec, _ => some false
  | .other, _ => none

def singleIs (ty : TyAbs) (t : JT) : Bool :=
  match ty with
  | .single t' => t' == t
  | _ => false

/-- the guards that occur -/
inductive GuardK where
  | none | singleIs (t : JT) | twoWithNull | allSeven | oneElem
deriving DecidableEq, Repr

/-- .. read off their text, exactly as written -/
def guardK (g : String) : Option GuardK :=
  if g = "" then some .none
  else if g = "single . as_ref () == & InstanceType :: String" then some (.singleIs .string)
  else if g = "single . as_ref () == & InstanceType :: Integer" then some (.singleIs .integer)
  else if g = "single . as_ref () == & InstanceType :: Number" then some (.singleIs .number)
  else if g = "single . as_ref () == & InstanceType :: Boolean" then some (.singleIs .boolean)
  else if g = "single . as_ref () == & InstanceType :: Object" then some (.singleIs .object)
  else if g = "single . as_ref () == & InstanceType :: Array" then some (.singleIs .array)
  else if g = "single . as_ref () == & InstanceType :: Null" then some (.singleIs .null)
  else if g = "multiple . len () == 2 && multiple . contains (& InstanceType :: Null)" then some .twoWithNull
  else if g = "instance_types . contains (& InstanceType :: Null) && instance_types . contains (& InstanceType :: Boolean) && instance_types . contains (& InstanceType :: Object) && instance_types . contains (& InstanceType :: Array) && instance_types . contains (& InstanceType :: Number) && instance_types . contains (& InstanceType :: String) && instance_types . contains (& InstanceType :: Integer)" then
    some .allSeven
  else if g = "instance_types . len () == 1" then some .oneElem
  else Option.none

def guardKB (k : Option GuardK) (ty : TyAbs) : Option Bool :=
  match k with
  | Option.none => Option.none
  | some .none => some true
  | some (.singleIs t) => some (singleIs ty t)
  | some .twoWithNull => some (match ty with | .multi b _ _ => b | _ => false)
  | some .allSeven => some (match ty with | .multi _ b _ => b | _ => false)
  | some .oneElem => some (match ty with | .multi _ _ b => b | _ => false)

def andO (a b : Option Bool) : Option Bool :=
  match a, b with
  | some x, some y => some (x && y)
  | _, _ => Option.none

/-- an arm without its texts: the ten patterns and the guard as read -/
structure CArm where
  it : FP
  fmt : FP
  en : FP
  cn : FP
  sub : FP
  num : FP
  str : FP
  arr : FP
  obj : FP
  rf : FP
  guard : Option GuardK
deriving DecidableEq, Repr

def compact (a : SrcArm) : CArm := ⟨a.it, a.fmt, a.en, a.cn, a.sub, a.num, a.str, a.arr, a.obj, a.rf, guardK a.guard⟩

/-- does the arm match? `none`: the arm is written in a way this reading does not cover -/
def cGuard (a : CArm) (ty : TyAbs) (g : Groups) : Option Bool :=
  andO (itB a.it ty) (andO (fpB a.fmt g.fmt) (andO (fpB a.en g.en) (andO (fpB a.cn g.cn) (andO (fpB a.sub g.sub)
    (andO (fpB a.num g.num) (andO (fpB a.str g.str) (andO (fpB a.arr g.arr) (andO (fpB a.obj g.obj) (andO (fpB a.rf g.rf)
      (guardKB a.guard ty))))))))))

def srcGuard (a : SrcArm) (ty : TyAbs) (g : Groups) : Option Bool := cGuard (compact a) ty g

def tyAbsUntyped : TyAbs → Bool
  | .none => true
  | _ => false
def tyAbsOne : TyAbs → Bool
  | .single _ => true
  | _ => false

/-- the match as it was read when the model was written (arm by arm: patterns and guard) -/
def expectedArms : List CArm := [
  ⟨.vec, .any, .any, .any, .any, .any, .any, .any, .any, .any, some .twoWithNull⟩,
  ⟨.single, .any, .isNone, .isNone, .isNone, .any, .any, .any, .any, .isNone, some (.singleIs .string)⟩,
  ⟨.isNone, .any, .isNone, .isNone, .isNone, .isNone, .isSome, .isNone, .isNone, .isNone, some .none⟩,
  ⟨.single, .any, .isSome, .isNone, .isNone, .any, .any, .any, .any, .isNone, some (.singleIs .string)⟩,
  ⟨.single, .any, .isNone, .isNone, .isNone, .any, .any, .any, .any, .isNone, some (.singleIs .integer)⟩,
  ⟨.single, .any, .isNone, .isNone, .isNone, .any, .any, .any, .any, .isNone, some (.singleIs .number)⟩,
  ⟨.single, .isNone, .any, .isNone, .isNone, .any, .any, .any, .any, .isNone, some (.singleIs .boolean)⟩,
  ⟨.single, .isNone, .isNone, .isNone, .isNone, .any, .any, .any, .any, .isNone, some (.singleIs .object)⟩,
  ⟨.isNone, .isNone, .isNone, .isNone, .isNone, .isNone, .isNone, .isNone, .isSome, .isNone, some .none⟩,
  ⟨.single, .isNone, .isNone, .isNone, .isNone, .any, .any, .isSome, .any, .isNone, some (.singleIs .array)⟩,
  ⟨.isNone, .isNone, .isNone, .isNone, .isNone, .isNone, .isNone, .isSome, .isNone, .isNone, some .none⟩,
  ⟨.single, .isNone, .isNone, .isNone, .isNone, .any, .any, .isNone, .any, .isNone, some (.singleIs .array)⟩,
  ⟨.isNone, .isNone, .isNone, .isNone, .isNone, .isNone, .isNone, .isNone, .isNone, .isNone, some .none⟩,
  ⟨.single, .any, .isNone, .isNone, .isNone, .any, .any, .any, .any, .isNone, some (.singleIs .null)⟩,
  ⟨.isNone, .isNone, .isNone, .isNone, .isNone, .isNone, .isNone, .isNone, .isNone, .isSome, some .none⟩,
  ⟨.any, .isNone, .isNone, .isNone, .isNone, .isNone, .isNone, .isNone, .isNone, .isSome, some .none⟩,
  ⟨.any, .any, .any, .any, .any, .any, .any, .any, .any, .isSome, some .none⟩,
  ⟨.single, .any, .isSome, .any, .any, .any, .any, .any, .any, .any, some .none⟩,
  ⟨.isNone, .isNone, .isSome, .isNone, .isNone, .isNone, .isNone, .isNone, .isNone, .isNone, some .none⟩,
  ⟨.any, .isNone, .isNone, .isNone, .isSome, .isNone, .isNone, .isNone, .isNone, .isNone, some .none⟩,
  ⟨.any, .any, .any, .any, .isSome, .any, .any, .any, .any, .any, some .none⟩,
  ⟨.any, .any, .any, .isSome, .any, .any, .any, .any, .any, .any, some .none⟩,
  ⟨.vec, .any, .any, .any, .any, .any, .any, .any, .any, .any, some .allSeven⟩,
  ⟨.vec, .any, .any, .any, .any, .any, .any, .any, .any, .any, some .oneElem⟩,
  ⟨.vec, .any, .isNone, .isNone, .isNone, .any, .any, .any, .any, .isNone, some .none⟩,
  ⟨.any, .any, .any, .any, .any, .any, .any, .any, .any, .any, some .none⟩
]

/-- **the match in /repo (table T11) is the match that was read**: patterns and guard texts, arm by arm -/
theorem source_arms_as_read : dispatchArms.map compact = expectedArms := by
  -- comparing the guard texts by `decide` makes the kernel re-encode both literals at every comparison
  simp only [dispatchArms, List.map_cons, List.map_nil, compact, guardK, String.reduceEq, if_true, if_false, expectedArms]

def expTyped : List CArm := (expectedArms.drop 1).take 20

/-- **arms 1..20 as read have the guards of the model's table**, whatever the spelling of the type and whichever keyword
    groups are present. Under the reading each source arm is the conjunction of its `None` / `Some` patterns and its guard,
    which is the model's guard with the test of the type written last instead of first. -/
theorem typed_arms_guards (ty : TyAbs) (g : Groups) :
    expTyped.map (fun a => cGuard a ty g) =
      (typedArmsG g .subschemasMerged (singleIs ty) (tyAbsUntyped ty) (tyAbsOne ty)).map (fun ga => some ga.1) := by
  cases ty <;>
    simp only [expTyped, expectedArms, List.drop_succ_cons, List.drop_zero, List.take_succ_cons, List.take_zero, List.map_cons,
      List.map_nil, cGuard, itB, fpB, guardKB, andO, typedArmsG, singleIs, tyAbsUntyped, tyAbsOne,
      Bool.true_and, Bool.and_true, Bool.false_and, Bool.and_false, Bool.and_assoc]
  -- left: a single type, which the source tests last and the model first
  simp only [Bool.and_comm, Bool.and_left_comm]

/-- none of the typed arms looks INTO a type list: the model's guards do not -/
theorem typed_arms_ignore_list : ∀ x ∈ expTyped, ∀ a b c : Bool, ∀ g : Groups,
    cGuard x (.multi a b c) g = cGuard x (.multi false false false) g :=
  fun x hx a b c g =>
    List.map_inj_left.mp ((typed_arms_guards (.multi a b c) g).trans (typed_arms_guards (.multi false false false) g).symm) x hx

/-- what the match can see of a `type` keyword -/
def absTy : Ty → TyAbs
  | .none => .none
  | .single t => .single t
  | .multi ts => .multi (ts.length == 2 && ts.contains .null) (allTypes.all (fun t => ts.contains t)) (ts.length == 1)
  | .bad => .none

theorem typed_arms_guards_kvs (kvs : Kvs) (hb : tyOf kvs ≠ .bad) :
    expTyped.map (fun a => cGuard a (absTy (tyOf kvs)) (groupsOf kvs)) =
    (typedArms kvs (isSingle (tyOf kvs)) (isUntyped (tyOf kvs)) (isOne (tyOf kvs))).map (fun ga => some ga.1) := by
  refine (typed_arms_guards (absTy (tyOf kvs)) (groupsOf kvs)).trans ?_
  cases hty : tyOf kvs <;> first | rfl | exact absurd hty hb

/-- **the match as written and the model's table have the same guards on every schema object** -/
theorem typed_arms_agree (kvs : Kvs) (hb : tyOf kvs ≠ .bad) :
    ((dispatchArms.map compact).drop 1 |>.take 20).map (fun a => cGuard a (absTy (tyOf kvs)) (groupsOf kvs)) =
    (typedArms kvs (isSingle (tyOf kvs)) (isUntyped (tyOf kvs)) (isOne (tyOf kvs))).map (fun ga => some ga.1) := by
  rw [source_arms_as_read]
  exact typed_arms_guards_kvs kvs hb

/-- the conversion each arm of the model stands for, by the name of the method the source calls -/
def armCallee : Arm → List String
  | .string | .stringUntyped => ["convert_string"]
  | .enumString => ["convert_enum_string"]
  | .integer => ["convert_integer"]
  | .number => ["convert_number"]
  | .boolean => ["convert_bool"]
  | .object | .objectUntyped => ["convert_object"]
  | .array | .arrayUntyped => ["convert_array"]
  | .arrayOfAny => ["convert_array_of_any"]
  | .permissive => ["convert_permissive"]
  | .null => ["convert_null"]
  | .reference | .referenceTyped => ["convert_reference"]
  | .referenceMerged => ["convert_schema"]
  | .typedEnum => ["convert_typed_enum"]
  | .unknownEnum => ["convert_unknown_enum"]
  | .subschemasMerged => ["match subschemas"]
  | .subschemasWithRest => ["convert_schema_object", "convert_never"]
  | .allOf => ["convert_all_of"]
  | .anyOf => ["convert_any_of"]
  | .oneOf => ["convert_one_of"]
  | .not => ["convert_not"]
  | .todo => ["todo!"]
  | _ => []

/-- **arms 1..20 call what the model's arm names say**, in the same order -/
theorem typed_arms_callees :
    ((dispatchArms.drop 1).take 20).map (·.calls) =
      (typedArmsG ⟨false, false, false, false, false, false, false, false, false⟩ .subschemasMerged (fun _ => false) false false).map
        (fun ga => armCallee ga.2) := by
  decide +kernel

/-- arm 0 is the two-element-with-null arm of `armNullable`: a type list, nothing else constrained; it may end in `null`,
    an `Option`, or a re-dispatch -/
theorem first_arm_nullable :
    dispatchArms.head? = some ⟨.vec, .any, .any, .any, .any, .any, .any, .any, .any, .any,
      "multiple . len () == 2 && multiple . contains (& InstanceType :: Null)",
      ["convert_null", "convert_option", "convert_schema_object"]⟩ := by
  decide +kernel

inductive RW where
  | dropConst | dropType | oneType | multiType | todo
deriving DecidableEq, Repr

/-- `armsRewrite`, as a function of what the match can see -/
def rwModel (ty : TyAbs) (g : Groups) : RW :=
  if g.cn then .dropConst
  else match ty with
    | .multi _ all7 one =>
      if all7 then .dropType else if one then .oneType
      else if !g.en && !g.cn && !g.sub && !g.rf then .multiType else .todo
    | _ => .todo

/-- the last five arms call: the dispatch again (three times), `untagged_enum`, `todo!()` -/
theorem rewrite_arms_callees :
    (dispatchArms.drop 21).map (·.calls) =
      [["convert_schema_object"], ["convert_schema_object"], ["unreachable!", "convert_schema_object"], ["untagged_enum"], ["todo!"]] := by
  decide +kernel

/-- position of the first arm whose patterns and guard hold; `none` when an arm without a reading comes first -/
def srcFirst (ty : TyAbs) (g : Groups) : List CArm → Nat → Option Nat
  | [], _ => none
  | c :: r, i =>
    match cGuard c ty g with
    | some true => some i
    | some false => srcFirst ty g r (i + 1)
    | none => none

theorem srcFirst_cons (ty : TyAbs) (g : Groups) (c : CArm) (r : List CArm) (i : Nat) :
    srcFirst ty g (c :: r) i = (cGuard c ty g).bind (fun b => if b then some i else srcFirst ty g r (i + 1)) := by
  cases h : cGuard c ty g with
  | none => simp [srcFirst, h]
  | some b => cases b <;> simp [srcFirst, h]

def rwIdx : RW → Nat
  | .dropConst => 0 | .dropType => 1 | .oneType => 2 | .multiType => 3 | .todo => 4

/-- **arms 21..25 = `armsRewrite`** for every spelling of the type and every combination of the keyword groups: read in order,
    the first of the last five arms that matches is the one `rwModel` names — `const` first; then, for a type list only: all
    seven types, one element, no `enum` / subschemas / `$ref`; `todo!()` otherwise -/
theorem rewrite_arms_first (ty : TyAbs) (g : Groups) (i : Nat) :
    srcFirst ty g (expectedArms.drop 21) i = some (i + rwIdx (rwModel ty g)) := by
  obtain ⟨fmt, en, cn, sub, num, str, arr, obj, rf⟩ := g
  cases cn <;> cases ty <;> simp [expectedArms, srcFirst_cons, rwModel, cGuard, itB, fpB, guardKB, andO, rwIdx, and_assoc]
  -- left: a type list without `const`; both sides are the same cascade all seven / one element / no enum, subschemas, `$ref`
  split
  · rfl
  split
  · rfl
  split <;> rfl

def rwKind : Step → RW
  | .again _ => .dropConst      -- which of the three re-dispatches it is follows from the guards (`armsRewrite_is_rwModel`)
  | .done (.multiType _) => .multiType
  | .done _ => .todo

/-- `armsRewrite` of the model IS `rwModel` of what the match sees (the three re-dispatching arms told apart by their result) -/
theorem armsRewrite_is_rwModel (kvs : Kvs) (ty : Ty) (hb : ty ≠ .bad) :
    (rwModel (absTy ty) (groupsOf kvs) = .dropConst → armsRewrite kvs ty = .again (kvs.filter (fun kv => kv.1 != "const"))) ∧
    (rwModel (absTy ty) (groupsOf kvs) = .dropType → armsRewrite kvs ty = .again (setType kvs none)) ∧
    (rwModel (absTy ty) (groupsOf kvs) = .oneType → ∃ t, armsRewrite kvs ty = .again (setType kvs (some (.str (jtName t))))) ∧
    (rwModel (absTy ty) (groupsOf kvs) = .multiType → ∃ ts, armsRewrite kvs ty = .done (.multiType ts)) ∧
    (rwModel (absTy ty) (groupsOf kvs) = .todo → armsRewrite kvs ty = .done .todo) := by
  unfold rwModel armsRewrite groupsOf
  cases hc : has kvs "const" with
  | true => simp
  | false =>
    cases ty with
    | bad => exact absurd rfl hb
    | none => simp [absTy]
    | single t => simp [absTy]
    | multi ts =>
      simp only [absTy, Bool.false_eq_true, if_false]
      cases h7 : allTypes.all (fun t => ts.contains t) with
      | true => simp
      | false =>
        simp only [Bool.false_eq_true, if_false]
        match ts with
        | [t] => simp; exact ⟨t, rfl⟩
        | [] => simp; split <;> simp_all
        | _ :: _ :: _ => simp; split <;> simp_all

def firstTrue : List Bool → Nat → Option Nat
  | [], _ => none
  | b :: r, i => if b then some i else firstTrue r (i + 1)

theorem srcFirst_of_guards (ty : TyAbs) (g : Groups) :
    ∀ (l : List CArm) (bs : List Bool) (rest : List CArm) (i : Nat), l.map (fun c => cGuard c ty g) = bs.map some →
      srcFirst ty g (l ++ rest) i = (match firstTrue bs i with | some k => some k | none => srcFirst ty g rest (i + l.length)) := by
  intro l
  induction l with
  | nil => intro bs rest i h; cases bs <;> simp_all [firstTrue]
  | cons c l ih =>
    intro bs rest i h
    cases bs with
    | nil => simp at h
    | cons b r =>
      obtain ⟨hc, hr⟩ := List.cons.inj h
      cases b with
      | true => simp [srcFirst_cons, hc, firstTrue]
      | false => simp [srcFirst_cons, hc, firstTrue, ih r rest (i + 1) hr, Nat.add_assoc, Nat.add_comm 1]

/-- the guard of arm 0: a two-element type list with `null` -/
def nullableFires : TyAbs → Bool
  | .multi b _ _ => b
  | _ => false

theorem arm0_guard (ty : TyAbs) (g : Groups) :
    cGuard ⟨.vec, .any, .any, .any, .any, .any, .any, .any, .any, .any, some .twoWithNull⟩ ty g =
      some (nullableFires ty) := by
  cases ty <;> simp [cGuard, itB, fpB, guardKB, andO, nullableFires]

/-- **the arm the source takes = the arm the model takes.** For every schema object whose `type` schemars can read, the first
    arm of `match schema` as written in /repo (table T11) whose patterns and guard hold is: arm 0 exactly when the model's
    `armNullable` fires; otherwise arm 1 + k where k is the first guard of the model's table `typedArms` that holds; otherwise
    arm 21 + the kind `armsRewrite` takes (`armsRewrite_is_rwModel`) -/
theorem source_first_match (kvs : Kvs) (hb : tyOf kvs ≠ .bad) :
    srcFirst (absTy (tyOf kvs)) (groupsOf kvs) (dispatchArms.map compact) 0 =
      some (if nullableFires (absTy (tyOf kvs)) then 0
            else match firstTrue ((typedArms kvs (isSingle (tyOf kvs)) (isUntyped (tyOf kvs)) (isOne (tyOf kvs))).map (·.1)) 1 with
              | some k => k
              | none => 21 + rwIdx (rwModel (absTy (tyOf kvs)) (groupsOf kvs))) := by
  have hta : expTyped.map (fun a => cGuard a (absTy (tyOf kvs)) (groupsOf kvs)) =
      ((typedArms kvs (isSingle (tyOf kvs)) (isUntyped (tyOf kvs)) (isOne (tyOf kvs))).map (·.1)).map some := by
    rw [List.map_map]
    exact typed_arms_guards_kvs kvs hb
  rw [source_arms_as_read]
  -- arm 0, the twenty typed arms, the five rewriting arms
  have hsplit : expectedArms = ⟨.vec, .any, .any, .any, .any, .any, .any, .any, .any, .any, some .twoWithNull⟩ ::
      (expTyped ++ expectedArms.drop 21) := by decide +kernel
  rw [hsplit, srcFirst_cons, arm0_guard, Option.bind_some]
  cases nullableFires (absTy (tyOf kvs)) with
  | true => rfl
  | false =>
    rw [if_neg Bool.false_ne_true, if_neg Bool.false_ne_true, srcFirst_of_guards _ _ expTyped _ _ _ hta]
    cases firstTrue ((typedArms kvs (isSingle (tyOf kvs)) (isUntyped (tyOf kvs)) (isOne (tyOf kvs))).map (·.1)) (0 + 1) with
    | some k => rfl
    | none => exact rewrite_arms_first _ _ _

def firstSub (present : List Bool) : List SubArm → Option (List String)
  | [] => none
  | a :: rest =>
    let ms := (a.pats.zip present).map (fun pb => fpB pb.1 pb.2)
    if ms.all (· == some true) then some a.calls
    else if ms.any (· == none) || a.pats.length != present.length then none
    else firstSub present rest

/-- `soleArm`, as a function of which of the seven subschema keywords are present -/
def soleArmB (allOf anyOf oneOf not if_ then_ else_ : Bool) : Arm :=
  match [("allOf", allOf), ("anyOf", anyOf), ("oneOf", oneOf), ("not", not), ("if", if_), ("then", then_), ("else", else_)].filter (·.2) with
  | [("allOf", _)] => .allOf
  | [("anyOf", _)] => .anyOf
  | [("oneOf", _)] => .oneOf
  | [("not", _)] => .not
  | _ => .subschemasMerged

/-- **the nested `match subschemas.as_ref()` = `soleArm`**: a lone `allOf` / `anyOf` / `oneOf` / `not` goes to its conversion,
    every other combination is merged — for all 128 combinations of the seven keywords -/
theorem subschema_arms_agree :
    ∀ a b c d e f g : Bool,
      firstSub [a, b, c, d, e, f, g] subschemaArms =
        some (match soleArmB a b c d e f g with
              | .subschemasMerged => ["convert_schema_object", "convert_never"]
              | x => armCallee x) := by
  decide +kernel

theorem soleArm_is_soleArmB (kvs : Kvs) :
    soleArm kvs = soleArmB (has kvs "allOf") (has kvs "anyOf") (has kvs "oneOf") (has kvs "not") (has kvs "if") (has kvs "then")
      (has kvs "else") := by
  unfold soleArm soleSub soleSub.Tag_subKeys soleArmB
  simp only [List.filter]
  generalize has kvs "allOf" = a
  generalize has kvs "anyOf" = b
  generalize has kvs "oneOf" = c
  generalize has kvs "not" = d
  generalize has kvs "if" = e
  generalize has kvs "then" = f
  generalize has kvs "else" = g
  revert a b c d e f g
  decide +kernel

end TypifyModel.Dispatch
