import TypifyModel.Proofs.Lemmas.FrontendsLemmas
import TypifyModel.Generated.Frontends
/-! # C15 — macro, cargo subcommand and builder generate the same types

Property theorems only (helpers, and the `lastWith` and `derivesFold` of the statements, in
`Proofs/Lemmas/FrontendsLemmas.lean`). They are stated over
`Generated/Frontends.lean` (table T7: the two `is_crate` predicates, the collection kind of every
`MacroSettings` field, the default impl set), which the translator regenerates from the source on
every run, and over `Model/Frontends.lean`, which the correspondence `c15` ties to the real
`cargo-typify` binary, to real `import_types!` expansions and to the real builder.

Generation is a function of `TypeSpaceSettings` × schema (`TypeSpace::new(&settings)` then
`add_root_schema`, `to_stream`), so "same items" reduces to "same settings": that is what
`cli_eq_builder` / `macro_eq_builder` establish, for every option assignment. -/
namespace TypifyModel.C15
open TypifyModel.Frontends TypifyModel.Generated

/-- independent reading of Cargo's crate-name rule: ASCII letters, digits, `-`, `_` … -/
def validCrateChar (c : Char) : Bool := c.isAlphanum || c == '-' || c == '_'
/-- … and not empty -/
def validCrateName (s : List Char) : Bool := !s.isEmpty && s.all validCrateChar

theorem validCrateChar_ascii {c : Char} (h : validCrateChar c = true) : c.val < 128 := by
  simp only [validCrateChar, Char.isAlphanum, Bool.or_eq_true, beq_iff_eq] at h
  rcases h with ((h | h) | h) | h
  · exact isAlpha_ascii h
  · exact isDigit_ascii h
  · subst h; decide
  · subst h; decide

theorem cli_macro_same_char (cs : CharSem) (c : Char) : cliIsCrateChar cs c = macroIsCrateChar cs c :=
  Bool.or_right_comm ..

/-- on ASCII the CLI's `is_crate` character predicate (T7, cargo-typify/src/lib.rs) is exactly
    Cargo's; beyond ASCII it follows Rust's Unicode tables (any `CharSem`) -/
theorem t7_cli_exact_ascii (cs : CharSem) (c : Char) (ha : c.val < 128) :
    cliIsCrateChar cs c = validCrateChar c := by
  simp only [cliIsCrateChar, CharSem.isAlphanumeric, cs.alpha_ascii c ha, cs.num_ascii c ha]
  rfl

theorem t7_macro_exact_ascii (cs : CharSem) (c : Char) (ha : c.val < 128) :
    macroIsCrateChar cs c = validCrateChar c :=
  (cli_macro_same_char cs c).symm.trans (t7_cli_exact_ascii cs c ha)

/-- both front-ends accept exactly the same crate names (all of Unicode, every `CharSem`) -/
theorem cli_macro_same_names (cs : CharSem) (s : List Char) : cliIsCrate cs s = macroIsCrate cs s :=
  congrArg s.all (funext (cli_macro_same_char cs))

theorem cli_accepts_name (cs : CharSem) {s : List Char} (h : validCrateName s = true) :
    cliIsCrate cs s = true := by
  simp only [validCrateName, Bool.and_eq_true, List.all_eq_true] at h
  exact List.all_eq_true.mpr fun c hc =>
    (t7_cli_exact_ascii cs c (validCrateChar_ascii (h.2 c hc))).trans (h.2 c hc)

theorem macro_accepts_name (cs : CharSem) {s : List Char} (h : validCrateName s = true) :
    macroIsCrate cs s = true := by
  rw [← cli_macro_same_names]; exact cli_accepts_name cs h

theorem valid_name_no {d : Char} (hd : validCrateChar d = false) {s : List Char}
    (h : validCrateName s = true) : d ∉ s := by
  simp only [validCrateName, Bool.and_eq_true, List.all_eq_true] at h
  intro m
  rw [h.2 d m] at hd
  cases hd

/-- **every valid `crate@version` is accepted** with exactly that name and version (`*`, `!` or a
    version `semver` accepts); `validVers` is any predicate, `cs` any Unicode table. The version
    text contains no `=` (semver's grammar has none). -/
theorem spec_accepts (cs : CharSem) (validVers : List Char → Bool) (c v : List Char) (cv : CrateVers)
    (hc : validCrateName c = true) (hv : CrateVers.parse validVers v = some cv) (hne : '=' ∉ v) :
    parseCrateSpec (cliIsCrate cs) validVers (c ++ '@' :: v) = some ⟨String.ofList c, cv, none⟩ := by
  have h1 : '=' ∉ c ++ '@' :: v := by simp [valid_name_no (d := '=') (by decide) hc, hne]
  have h2 : '@' ∉ c := valid_name_no (d := '@') (by decide) hc
  simp only [parseCrateSpec, splitFirst_none h1, splitFirst_append h2, cli_accepts_name cs hc, hv,
    Bool.not_true, Bool.false_eq_true, if_false]

/-- **every valid `rename=crate@version` is accepted** with exactly that rename, name, version -/
theorem spec_accepts_rename (cs : CharSem) (validVers : List Char → Bool) (r c v : List Char)
    (cv : CrateVers) (hr : validCrateName r = true) (hc : validCrateName c = true)
    (hv : CrateVers.parse validVers v = some cv) :
    parseCrateSpec (cliIsCrate cs) validVers (r ++ '=' :: (c ++ '@' :: v))
      = some ⟨String.ofList c, cv, some (String.ofList r)⟩ := by
  have h1 : '=' ∉ r := valid_name_no (d := '=') (by decide) hr
  have h2 : '@' ∉ c := valid_name_no (d := '@') (by decide) hc
  simp only [parseCrateSpec, splitFirst_append h1, splitFirst_append h2, cli_accepts_name cs hr,
    cli_accepts_name cs hc, hv, Bool.not_true, Bool.false_eq_true, if_false]

/-- the local `go` of `parseCrateSpec` -/
theorem parse_name_at_version {isCrate validVers : List Char → Bool} {rn : Option String}
    {s : List Char} {sp : CrateSpec}
    (h : (match splitFirst '@' s with
      | none => none
      | some (crateStr, versStr) =>
        if !isCrate crateStr then none
        else match CrateVers.parse validVers versStr with
          | none => none
          | some v => some ⟨String.ofList crateStr, v, rn⟩) = some sp) :
    ∃ c v, isCrate c = true ∧ CrateVers.parse validVers v = some sp.version ∧
      sp.name = String.ofList c ∧ s = c ++ '@' :: v ∧ sp.rename = rn := by
  split at h
  · cases h
  · rename_i c v hs
    split at h
    · cases h
    · rename_i hc
      split at h
      · cases h
      · rename_i cv hp
        cases h
        exact ⟨c, v, by simpa using hc, hp, rfl, (splitFirst_some hs).1, rfl⟩

/-- nothing else is accepted: an accepted specifier has the shape `[rename=]name@version` with
    `is_crate` names and a parsable version, and is returned unchanged -/
theorem spec_sound (isCrate validVers : List Char → Bool) (s : List Char) (sp : CrateSpec)
    (h : parseCrateSpec isCrate validVers s = some sp) :
    ∃ c v, isCrate c = true ∧ CrateVers.parse validVers v = some sp.version ∧
      sp.name = String.ofList c ∧
      ((s = c ++ '@' :: v ∧ sp.rename = none) ∨
       ∃ r, isCrate r = true ∧ s = r ++ '=' :: (c ++ '@' :: v) ∧ sp.rename = some (String.ofList r)) := by
  unfold parseCrateSpec at h
  split at h
  · rename_i r rest hs
    split at h
    · cases h
    · rename_i hr
      obtain ⟨c, v, hc, hv, hn, e, hrn⟩ := parse_name_at_version h
      exact ⟨c, v, hc, hv, hn, .inr ⟨r, by simpa using hr, e ▸ (splitFirst_some hs).1, hrn⟩⟩
  · obtain ⟨c, v, hc, hv, hn, e, hrn⟩ := parse_name_at_version h
    exact ⟨c, v, hc, hv, hn, .inl ⟨e, hrn⟩⟩

/-- a specifier without `@` is rejected (whatever `is_crate` is) -/
theorem spec_rejects (isCrate validVers : List Char → Bool) (s : List Char) (h : '@' ∉ s) :
    parseCrateSpec isCrate validVers s = none := by
  -- by `spec_sound` an accepted specifier contains `@`
  refine Option.eq_none_iff_forall_ne_some.mpr fun sp hsp => ?_
  obtain ⟨c, v, _, _, _, ⟨rfl, _⟩ | ⟨r, _, rfl, _⟩⟩ := spec_sound _ _ _ _ hsp <;> simp at h

/-- the macro's `"name" = "original@version"` / `"name" = "version"` entries: every valid one is
    accepted with exactly those parts -/
theorem macro_spec_accepts (cs : CharSem) (validVers : List Char → Bool) (n c v : List Char)
    (cv : CrateVers) (hn : validCrateName n = true) (hc : validCrateName c = true)
    (hv : CrateVers.parse validVers v = some cv) :
    parseMacroCrate (macroIsCrate cs) validVers n (c ++ '@' :: v)
      = some (String.ofList n, ⟨some (String.ofList c), cv⟩) := by
  have h2 : '@' ∉ c := valid_name_no (d := '@') (by decide) hc
  simp only [parseMacroCrate, splitFirst_append h2, macro_accepts_name cs hn, macro_accepts_name cs hc,
    hv, Bool.not_true, Bool.false_eq_true, if_false]

theorem macro_spec_accepts_plain (cs : CharSem) (validVers : List Char → Bool) (n v : List Char)
    (cv : CrateVers) (hn : validCrateName n = true) (hv : CrateVers.parse validVers v = some cv)
    (hat : '@' ∉ v) :
    parseMacroCrate (macroIsCrate cs) validVers n v = some (String.ofList n, ⟨none, cv⟩) := by
  simp only [parseMacroCrate, splitFirst_none hat, macro_accepts_name cs hn, hv, Bool.not_true,
    Bool.false_eq_true, if_false]

/-- the builder program the CLI options stand for (README, `cargo typify --help`): the struct
    builder is on unless `--no-builder`; one `with_derive` per `--additional-derive`; one
    `with_crate` per `--crate`; `with_map_type` / `with_unknown_crates` when given -/
def cliCalls (a : CliArgs) : List Call :=
  [Call.structBuilder (!a.noBuilder)]
  ++ a.additionalDerives.map Call.derive
  ++ a.crates.map (fun c => Call.crate c.name c.version c.rename)
  ++ (match a.mapType with | some m => [Call.mapType m] | none => [])
  ++ (match a.unknownCrates.bind parsePolicy with | some p => [Call.unknownCrates p] | none => [])

/-- clap's `value_parser` admits only the three policy words -/
def policyOk (a : CliArgs) : Bool :=
  match a.unknownCrates with
  | none => true
  | some u => (parsePolicy u).isSome

/-- **for every parsed command line, `cargo-typify` builds exactly the settings of the builder
    program `cliCalls`** -/
theorem cli_eq_builder (a : CliArgs) (h : policyOk a = true) :
    cliSettings a = some (runCalls (cliCalls a)) := by
  unfold cliSettings runCalls cliCalls CliArgs.useBuilder
  simp only [List.foldl_append, List.foldl_map, List.foldl_cons, List.foldl_nil, Call.apply]
  unfold policyOk at h
  cases hm : a.mapType <;> cases hu : a.unknownCrates <;> simp only [Option.bind, List.foldl_nil, List.foldl_cons, Call.apply]
  all_goals
    rw [hu] at h
    simp only at h
    cases hp : parsePolicy _ with
    | none => rw [hp] at h; cases h
    | some pol => simp only [List.foldl_cons, List.foldl_nil, Call.apply]

/-- what the options are documented to mean, stated on the resulting settings (no builder
    program in sight): "last `--crate` for a name wins", "a derive is applied once" … -/
structure CliEquiv (a : CliArgs) (s : Settings) : Prop where
  builder : s.structBuilder = !a.noBuilder
  derives_mem : ∀ d, d ∈ s.extraDerives ↔ d ∈ a.additionalDerives
  derives_nodup : s.extraDerives.Nodup
  crates : ∀ n, mapLookup n s.crates
    = lastWith (fun c : CrateSpec => c.name) (fun c => (⟨c.version, c.rename⟩ : CrateEntry)) n a.crates none
  mapType : s.mapType = a.mapType.getD defaultMapType
  unknown : some s.unknownCrates = (match a.unknownCrates with | none => some .generate | some u => parsePolicy u)
  typeMod : s.typeMod = none
  patch : s.patch = []
  replace : s.replace = []
  convert : s.convert = []

/-- closed form of `cliSettings` before the policy is applied -/
def cliBase (a : CliArgs) : Settings :=
  { typeMod := none
    extraDerives := derivesFold a.additionalDerives []
    structBuilder := !a.noBuilder
    unknownCrates := .generate
    crates := a.crates.foldl (fun m (c : CrateSpec) => mapInsert c.name ⟨c.version, c.rename⟩ m) []
    mapType := a.mapType.getD defaultMapType
    patch := [], replace := [], convert := [] }

theorem cliSettings_closed (a : CliArgs) :
    cliSettings a = (match a.unknownCrates with
      | none => some (cliBase a)
      | some u => (parsePolicy u).map (fun p => { cliBase a with unknownCrates := p })) := by
  unfold cliSettings
  dsimp only
  rw [foldl_withDerive (fun d => d), List.map_id']
  rw [foldl_withCrate (fun c : CrateSpec => c.name) (fun c => ⟨c.version, c.rename⟩)]
  obtain ⟨inp, b, nb, ders, out, crs, mt, uc⟩ := a
  cases mt <;> cases uc <;> try rfl
  all_goals (dsimp only; cases parsePolicy _ <;> rfl)

theorem cli_documented (a : CliArgs) (s : Settings) (h : cliSettings a = some s) : CliEquiv a s := by
  rw [cliSettings_closed] at h
  have hm (d) : d ∈ (cliBase a).extraDerives ↔ d ∈ a.additionalDerives := by
    simp [cliBase, mem_derivesFold]
  have hn := nodup_derivesFold a.additionalDerives [] List.nodup_nil
  have hc (n) := mapLookup_foldl_insert (fun c : CrateSpec => c.name)
    (fun c => (⟨c.version, c.rename⟩ : CrateEntry)) n a.crates []
  cases hu : a.unknownCrates with
  | none =>
    rw [hu] at h
    cases h
    exact ⟨rfl, hm, hn, hc, rfl, by rw [hu]; rfl, rfl, rfl, rfl, rfl⟩
  | some u =>
    rw [hu] at h
    obtain ⟨pol, hp, rfl⟩ := Option.map_eq_some_iff.mp h
    exact ⟨rfl, hm, hn, hc, rfl, by rw [hu]; exact hp.symm, rfl, rfl, rfl, rfl⟩

def macroCrateCall (e : String × MacroCrateSpec) : Call :=
  match e.2.original with
  | some orig => Call.crate orig e.2.version (some e.1)
  | none => Call.crate e.1 e.2.version none

/-- the builder program the macro options stand for (doc comment of `import_types!`, README):
    `"name" = "original@version"` means "crate `original` at `version`, known locally as `name`";
    a replacement/conversion type implements `FromStr` and `Display` unless `?`-removed -/
def macroCalls (o : MacroOpts) : List Call :=
  o.derives.map (fun d => Call.derive d.deriveText)
  ++ [Call.structBuilder o.structBuilder]
  ++ o.patch.map (fun e => Call.patch e.1 e.2.toPatch)
  ++ o.replace.map (fun e => Call.replacement e.1 e.2.typeName.toString (e.2.implList macroDefaultImpls))
  ++ o.convert.map (fun e => Call.conversion e.1 e.2.typeName.toString (e.2.implList macroDefaultImpls))
  ++ o.crates.map macroCrateCall
  ++ [Call.unknownCrates o.unknownCrates, Call.mapType o.mapType]

theorem apply_macroCrateCall (s : Settings) (e : String × MacroCrateSpec) :
    (macroCrateCall e).apply s = applyMacroCrate s e := by
  unfold macroCrateCall applyMacroCrate
  cases e.2.original <;> rfl

/-- **for every deserialised option set, `import_types!` builds exactly the settings of the
    builder program `macroCalls`** -/
theorem macro_eq_builder (o : MacroOpts) :
    macroSettings macroDefaultImpls o = runCalls (macroCalls o) := by
  unfold macroSettings runCalls macroCalls
  have : (fun x y => Call.apply x (macroCrateCall y)) = applyMacroCrate := by
    funext s e; exact apply_macroCrateCall s e
  simp only [List.foldl_append, List.foldl_map, List.foldl_cons, List.foldl_nil, this]
  rfl

/-- the effective key of a `crates` entry: the crate the entry is about -/
def effCrate (e : String × MacroCrateSpec) : String := e.2.original.getD e.1
def effEntry (e : String × MacroCrateSpec) : CrateEntry :=
  match e.2.original with
  | some _ => ⟨e.2.version, some e.1⟩
  | none => ⟨e.2.version, none⟩

theorem applyMacroCrate_eq (s : Settings) (e : String × MacroCrateSpec) :
    applyMacroCrate s e = s.withCrate (effCrate e) (effEntry e).version (effEntry e).rename := by
  unfold applyMacroCrate effCrate effEntry
  cases e.2.original <;> rfl

theorem foldl_applyMacroCrate (l : List (String × MacroCrateSpec)) (s : Settings) :
    l.foldl applyMacroCrate s
      = { s with crates := l.foldl (fun m e => mapInsert (effCrate e) (effEntry e) m) s.crates } := by
  rw [← foldl_withCrate]
  congr 1
  funext s e
  exact applyMacroCrate_eq s e

/-- closed form of `macroSettings` -/
theorem macroSettings_closed (o : MacroOpts) :
    macroSettings macroDefaultImpls o =
      { typeMod := none
        extraDerives := derivesFold (o.derives.map TokPath.deriveText) []
        structBuilder := o.structBuilder
        unknownCrates := o.unknownCrates
        crates := o.crates.foldl (fun m e => mapInsert (effCrate e) (effEntry e) m) []
        mapType := o.mapType
        patch := o.patch.foldl (fun m e => mapInsert e.1 e.2.toPatch m) []
        replace := o.replace.foldl (fun m e => mapInsert e.1
          (⟨e.2.typeName.toString, e.2.implList macroDefaultImpls⟩ : Replace) m) []
        convert := o.convert.map (fun e => ⟨e.1, e.2.typeName.toString, e.2.implList macroDefaultImpls⟩) } := by
  unfold macroSettings
  dsimp only
  rw [foldl_withDerive, foldl_withPatch,
    foldl_withReplacement (fun e : String × TypeAndImpls => e.1)
      (fun e => ⟨e.2.typeName.toString, e.2.implList macroDefaultImpls⟩),
    foldl_withConversion (fun e : String × TypeAndImpls =>
      (⟨e.1, e.2.typeName.toString, e.2.implList macroDefaultImpls⟩ : Conversion)),
    foldl_applyMacroCrate]
  rfl

/-- the relation between two listings of one collection of kind `c` -/
def collRel {α : Type} (c : Coll) (l₁ l₂ : List α) : Prop :=
  match c with
  | .hash => l₁.Perm l₂
  | .btree => l₁ = l₂
  | .ordered => l₁ = l₂

instance {α : Type} [DecidableEq α] (c : Coll) (l₁ l₂ : List α) : Decidable (collRel c l₁ l₂) := by
  cases c <;> unfold collRel <;> infer_instance

theorem collRel.perm {α : Type} {c : Coll} {l₁ l₂ : List α} (h : collRel c l₁ l₂) : l₁.Perm l₂ := by
  cases c
  · exact h
  · exact h ▸ List.Perm.refl _
  · exact h ▸ List.Perm.refl _

theorem collRel.eq_of_ne_hash {α : Type} {c : Coll} {l₁ l₂ : List α} (hc : c ≠ .hash)
    (h : collRel c l₁ l₂) : l₁ = l₂ := by
  cases c
  · exact absurd rfl hc
  · exact h
  · exact h

/-- two deserialisations of the same macro invocation: each map-like field lists the same
    entries, in an order that is fixed only as far as the field's collection kind (regenerated
    from the source, T7) fixes it; map keys are distinct -/
structure SameInvocation (o₁ o₂ : MacroOpts) : Prop where
  derives : collRel macroDerivesColl o₁.derives o₂.derives
  structBuilder : o₁.structBuilder = o₂.structBuilder
  unknownCrates : o₁.unknownCrates = o₂.unknownCrates
  crates : collRel macroCratesColl o₁.crates o₂.crates
  mapType : o₁.mapType = o₂.mapType
  patch : collRel macroPatchColl o₁.patch o₂.patch
  replace : collRel macroReplaceColl o₁.replace o₂.replace
  convert : collRel macroConvertColl o₁.convert o₂.convert
  patch_keys : (o₁.patch.map Prod.fst).Nodup
  replace_keys : (o₁.replace.map Prod.fst).Nodup

/-- the `BTreeSet`/`HashSet` of impls: its iteration order reaches `TypeSpaceSettings` (a `Vec`),
    so it must be a function of the set -/
theorem macro_impls_order_fixed : macroImplsColl ≠ .hash := by decide +kernel

/-- **the settings do not depend on hash iteration order**: wherever the macro iterates a
    `HashMap` the result is invariant under permutation; `derives`, `convert` and `crates` (whose
    order *does* matter: dedupe order, first match wins, two local names of one crate) have a
    fixed order by their kind in T7 -/
theorem macro_order_irrelevant (o₁ o₂ : MacroOpts) (h : SameInvocation o₁ o₂) :
    macroSettings macroDefaultImpls o₁ = macroSettings macroDefaultImpls o₂ := by
  rw [macroSettings_closed, macroSettings_closed]
  have hd : o₁.derives = o₂.derives := h.derives.eq_of_ne_hash (by decide)
  have hc : o₁.crates = o₂.crates := h.crates.eq_of_ne_hash (by decide)
  have hv : o₁.convert = o₂.convert := h.convert.eq_of_ne_hash (by decide)
  have hp := foldl_insert_perm (fun e : String × MacroPatch => e.1) (fun e => e.2.toPatch)
    h.patch.perm h.patch_keys []
  have hr := foldl_insert_perm (fun e : String × TypeAndImpls => e.1)
    (fun e => (⟨e.2.typeName.toString, e.2.implList macroDefaultImpls⟩ : Replace))
    h.replace.perm h.replace_keys []
  rw [hd, hc, hv, hp, hr, h.structBuilder, h.unknownCrates, h.mapType]

/-- a permutation of `crates` is harmless provided no two local names stand for the same crate;
    not needed above: T7 has `crates` as a `BTreeMap` (typify-macro since 8ab9bbc) -/
theorem macro_crates_order_partial (l₁ l₂ : List (String × MacroCrateSpec)) (hp : l₁.Perm l₂)
    (hn : (l₁.map effCrate).Nodup) (s : Settings) :
    l₁.foldl applyMacroCrate s = l₂.foldl applyMacroCrate s := by
  rw [foldl_applyMacroCrate, foldl_applyMacroCrate, foldl_insert_perm effCrate effEntry hp hn]

/-- what the macro options are documented to mean, stated on the resulting settings -/
structure MacroEquiv (o : MacroOpts) (s : Settings) : Prop where
  builder : s.structBuilder = o.structBuilder
  derives_mem : ∀ d, d ∈ s.extraDerives ↔ ∃ p ∈ o.derives, p.deriveText = d
  derives_nodup : s.extraDerives.Nodup
  crates : ∀ n, mapLookup n s.crates = lastWith effCrate effEntry n o.crates none
  mapType : s.mapType = o.mapType
  unknown : s.unknownCrates = o.unknownCrates
  typeMod : s.typeMod = none
  patch : ∀ n, mapLookup n s.patch
    = lastWith (fun e : String × MacroPatch => e.1) (fun e => e.2.toPatch) n o.patch none
  replace : ∀ n, mapLookup n s.replace
    = lastWith (fun e : String × TypeAndImpls => e.1)
        (fun e => (⟨e.2.typeName.toString, e.2.implList macroDefaultImpls⟩ : Replace)) n o.replace none
  convert : s.convert = o.convert.map (fun e => ⟨e.1, e.2.typeName.toString, e.2.implList macroDefaultImpls⟩)

theorem macro_documented (o : MacroOpts) : MacroEquiv o (macroSettings macroDefaultImpls o) := by
  rw [macroSettings_closed]
  exact {
    builder := rfl
    derives_mem := fun d => by simp [mem_derivesFold]
    derives_nodup := nodup_derivesFold _ _ List.nodup_nil
    crates := fun n => mapLookup_foldl_insert ..
    mapType := rfl, unknown := rfl, typeMod := rfl
    patch := fun n => mapLookup_foldl_insert ..
    replace := fun n => mapLookup_foldl_insert ..
    convert := rfl }

/-- a replacement type written without a trait list implements exactly the default impls -/
theorem impls_default (p : TokPath) :
    (⟨p, []⟩ : TypeAndImpls).implList macroDefaultImpls = macroDefaultImpls := by
  unfold macroDefaultImpls; rfl

/-- `Name` adds, `?Name` removes, the last mention of a trait decides, unknown names are ignored;
    the resulting `Vec` is in `Ord` order (a function of the set) -/
theorem impls_set_mem (t : TypeAndImpls) (i : Impl) (ds : List Impl) :
    i ∈ t.implList ds ↔
      (t.impls.foldl (fun acc it => if Impl.parse it.name = some i then !it.maybe else acc)
        (decide (i ∈ ds))) = true := by
  unfold TypeAndImpls.implList TypeAndImpls.implSet ImplSet.ofList
  rw [ImplSet.mem_toList, ImplSet.has_foldl_step, ImplSet.has_ofList]
  cases i <;> rfl

/-- `-o -` is stdout; any other `-o p` is the file `p`; by default the input path with its
    extension replaced by (or, lacking one, extended with) `.rs` -/
theorem out_path (a : CliArgs) :
    (a.output = some "-" → outputPath a = some .stdout) ∧
    (∀ o, a.output = some o → o ≠ "-" → outputPath a = some (.file o)) ∧
    (∀ p, a.output = none → setExtensionRs a.input.toList = some p →
      outputPath a = some (.file (String.ofList p))) := by
  refine ⟨?_, ?_, ?_⟩
  · intro h; simp [outputPath, h]
  · intro o h hne; simp [outputPath, h, hne]
  · intro p h hp; simp [outputPath, h, hp]

theorem setExtensionRs_file (dir f : List Char) (hd : dir = [] ∨ ∃ d, dir = d ++ ['/'])
    (hf : '/' ∉ f) (h0 : f ≠ []) (h1 : f ≠ ['.']) (h2 : f ≠ ['.', '.']) :
    setExtensionRs (dir ++ f) = some (dir ++ fileStem f ++ ['.', 'r', 's']) := by
  rcases hd with rfl | ⟨d, rfl⟩
  · simp only [setExtensionRs, List.nil_append, splitLast_none hf, h0, h1, h2, or_self, if_false]
  · rw [List.append_assoc, List.singleton_append]
    simp only [setExtensionRs, splitLast_append hf, h0, h1, h2, or_self, if_false]

/-- `dir/stem.ext` ↦ `dir/stem.rs` -/
theorem set_extension_replaces (dir stem ext : List Char) (hd : dir = [] ∨ ∃ d, dir = d ++ ['/'])
    (hs : stem ≠ []) (hs1 : '/' ∉ stem) (hs2 : stem ≠ ['.']) (he1 : '/' ∉ ext) (he2 : '.' ∉ ext) :
    setExtensionRs (dir ++ stem ++ '.' :: ext) = some (dir ++ stem ++ ['.', 'r', 's']) := by
  have hstem : fileStem (stem ++ '.' :: ext) = stem := by
    simp only [fileStem, splitLast_append he2, hs, if_false]
  rw [List.append_assoc, setExtensionRs_file dir _ hd, hstem]
  · simp [hs1, he1]
  · simp
  · intro e
    cases stem with
    | nil => exact hs rfl
    | cons c t => cases t <;> simp at e
  · intro e
    cases stem with
    | nil => exact hs rfl
    | cons c t =>
      cases t with
      | nil => exact hs2 (by simp_all)
      | cons _ t => cases t <;> simp at e

/-- `dir/name` without a dot ↦ `dir/name.rs` -/
theorem set_extension_appends (dir f : List Char) (hd : dir = [] ∨ ∃ d, dir = d ++ ['/'])
    (hf0 : f ≠ []) (hf1 : '/' ∉ f) (hf2 : '.' ∉ f) :
    setExtensionRs (dir ++ f) = some (dir ++ f ++ ['.', 'r', 's']) := by
  have hstem : fileStem f = f := by simp only [fileStem, splitLast_none hf2]
  rw [setExtensionRs_file dir f hd hf1 hf0, hstem] <;> intro e <;> simp [e] at hf2

/-- **nothing is written on failure**: a non-zero exit leaves no file and an empty stdout -/
theorem fail_writes_nothing (isCrate validVers : List Char → Bool)
    (generate : Settings → String → Option String) (r : RawCli)
    (h : (runCli isCrate validVers generate r).exit ≠ 0) :
    (runCli isCrate validVers generate r).written = none ∧ (runCli isCrate validVers generate r).stdout = "" := by
  -- only the two branches that write exit with 0
  revert h
  unfold runCli
  split
  · exact fun _ => ⟨rfl, rfl⟩
  split
  · exact fun _ => ⟨rfl, rfl⟩
  split
  · exact fun _ => ⟨rfl, rfl⟩
  split
  · exact fun h => absurd rfl h
  · exact fun h => absurd rfl h
  · exact fun _ => ⟨rfl, rfl⟩

/-- a bad `--crate` specifier is a usage error: exit 2, nothing generated or written -/
theorem bad_spec_fails (isCrate validVers : List Char → Bool)
    (generate : Settings → String → Option String) (r : RawCli)
    (h : parseSpecs isCrate validVers r.crates = none) :
    runCli isCrate validVers generate r = ⟨2, none, ""⟩ := by
  have : parseCli isCrate validVers r = none := by
    unfold parseCli
    split
    · rfl
    · split
      · rfl
      · rw [h]
  simp only [runCli, this]

/-- generation is a function of settings × schema (`TypeSpace::new(&settings)`,
    `add_root_schema(schema)`, `to_stream()`): definitional -/
theorem same_settings_same_items {Schema Items : Type} (generate : Settings → Schema → Items)
    (s₁ s₂ : Settings) (h : s₁ = s₂) (schema : Schema) : generate s₁ schema = generate s₂ schema := by
  rw [h]

/-- **C15, assembled**: a command line and a macro invocation whose documented builder programs
    agree produce the same items as that builder program, for every schema and generator -/
theorem frontends_same_items {Schema Items : Type} (generate : Settings → Schema → Items)
    (a : CliArgs) (o : MacroOpts) (calls : List Call) (s : Settings) (hp : policyOk a = true)
    (hs : cliSettings a = some s)
    (ha : runCalls (cliCalls a) = runCalls calls) (ho : runCalls (macroCalls o) = runCalls calls)
    (schema : Schema) :
    generate s schema = generate (runCalls calls) schema ∧
    generate (macroSettings macroDefaultImpls o) schema = generate (runCalls calls) schema := by
  rw [cli_eq_builder a hp] at hs
  simp only [Option.some.injEq] at hs
  rw [← hs, ha, macro_eq_builder, ho]
  exact ⟨rfl, rfl⟩

/-! ## Non-vacuity: the hypotheses are satisfiable by non-trivial inputs -/

private def anyVers : List Char → Bool := fun v => v = "0.21.0".toList || v = "1.2.3".toList

-- spec_accepts: a crate name with digits
example : validCrateName "base64".toList = true := by decide +kernel
example : CrateVers.parse anyVers "0.21.0".toList = some (.version "0.21.0") := by decide +kernel
example : parseCrateSpec (cliIsCrate CharSem.ascii) anyVers "base64@0.21.0".toList
    = some ⟨"base64", .version "0.21.0", none⟩ := by decide +kernel
-- spec_accepts_rename, with digits, `-`, `_`, `*`, `!`
example : parseCrateSpec (cliIsCrate CharSem.ascii) anyVers "r2_d=my-crate9@*".toList
    = some ⟨"my-crate9", .any, some "r2_d"⟩ := by decide +kernel
example : parseCrateSpec (cliIsCrate CharSem.ascii) anyVers "9lives@!".toList
    = some ⟨"9lives", .never, none⟩ := by decide +kernel
-- spec_rejects / spec_sound
example : parseCrateSpec (cliIsCrate CharSem.ascii) anyVers "serde".toList = none := by decide +kernel
example : parseCrateSpec (cliIsCrate CharSem.ascii) anyVers "a b@1.2.3".toList = none := by decide +kernel
example : parseCrateSpec (cliIsCrate CharSem.ascii) anyVers "a@1.2".toList = none := by decide +kernel
-- the empty name is accepted by `is_crate` (both front-ends; not a Cargo name)
example : parseCrateSpec (cliIsCrate CharSem.ascii) anyVers "@1.2.3".toList
    = some ⟨"", .version "1.2.3", none⟩ := by decide +kernel
-- macro_spec_accepts
example : parseMacroCrate (macroIsCrate CharSem.ascii) anyVers "b64".toList "base64@0.21.0".toList
    = some ("b64", ⟨some "base64", .version "0.21.0"⟩) := by decide +kernel

private def exArgs : CliArgs :=
  { input := "dir/in.json", noBuilder := true, additionalDerives := ["Hash", "a::B", "Hash"],
    crates := [⟨"x", .any, none⟩, ⟨"base64", .version "0.21.0", some "b"⟩, ⟨"x", .never, some "y"⟩],
    mapType := some "::std::collections::BTreeMap", unknownCrates := some "deny" }

-- cli_eq_builder / cli_documented on an assignment using every CLI option
example : policyOk exArgs = true := by decide +kernel
example : cliSettings exArgs = some
    { typeMod := none, extraDerives := ["Hash", "a::B"], structBuilder := false, unknownCrates := .deny,
      crates := [("base64", ⟨.version "0.21.0", some "b"⟩), ("x", ⟨.never, some "y"⟩)],
      mapType := "::std::collections::BTreeMap", patch := [], replace := [], convert := [] } := by decide +kernel

private def exOpts₁ : MacroOpts :=
  { derives := [⟨true, ["std", "hash", "Hash"]⟩, ⟨false, ["PartialEq"]⟩], structBuilder := true,
    unknownCrates := .allow, crates := [("b", ⟨some "base64", .version "0.21.0"⟩), ("x", ⟨none, .any⟩)],
    patch := [("Foo", ⟨some "Bar", [⟨false, ["Eq"]⟩]⟩), ("Baz", ⟨none, []⟩)],
    replace := [("Q", ⟨⟨false, ["a", "Q"]⟩, [⟨true, "Display"⟩, ⟨false, "Default"⟩, ⟨false, "Bogus"⟩]⟩), ("P", ⟨⟨false, ["P"]⟩, []⟩)],
    convert := [("{\"type\":\"number\"}", ⟨⟨true, ["d", "Dec"]⟩, []⟩)] }
private def exOpts₂ : MacroOpts :=
  { exOpts₁ with
    patch := if macroPatchColl = .hash then exOpts₁.patch.reverse else exOpts₁.patch
    replace := if macroReplaceColl = .hash then exOpts₁.replace.reverse else exOpts₁.replace }

-- macro_eq_builder / macro_order_irrelevant: two hash orders of one invocation
example : SameInvocation exOpts₁ exOpts₂ :=
  { derives := rfl, structBuilder := rfl, unknownCrates := rfl, crates := rfl, mapType := rfl,
    patch := by decide +kernel, replace := by decide +kernel, convert := rfl,
    patch_keys := by decide +kernel, replace_keys := by decide +kernel }
example : (macroSettings macroDefaultImpls exOpts₁).replace
    = [("P", ⟨"P", [.fromStr, .display]⟩), ("Q", ⟨"a :: Q", [.fromStr, .default]⟩)] := by decide +kernel
example : (macroSettings macroDefaultImpls exOpts₁).extraDerives = ["::std::hash::Hash", "PartialEq"] := by
  decide +kernel
-- macro_crates_order_partial: its hypothesis is not vacuous, and not always true
example : (exOpts₁.crates.map effCrate).Nodup := by decide +kernel
example : ¬ ([("a", (⟨some "x", .any⟩ : MacroCrateSpec)), ("b", ⟨some "x", .never⟩)].map effCrate).Nodup := by
  decide +kernel

-- out_path
example : setExtensionRs "dir/in.json".toList = some "dir/in.rs".toList := by decide +kernel
example : setExtensionRs "a.b/schema".toList = some "a.b/schema.rs".toList := by decide +kernel
example : setExtensionRs ".json".toList = some ".json.rs".toList := by decide +kernel
example : outputPath exArgs = some (.file "dir/in.rs") := by decide +kernel
example : outputPath { exArgs with output := some "-" } = some .stdout := by decide +kernel

-- fail_writes_nothing / bad_spec_fails
example : runCli (cliIsCrate CharSem.ascii) anyVers (fun _ _ => some "code")
    { input := "in.json", crates := ["serde"] } = ⟨2, none, ""⟩ := by decide +kernel
example : runCli (cliIsCrate CharSem.ascii) anyVers (fun _ _ => none)
    { input := "in.json", crates := ["base64@0.21.0"] } = ⟨1, none, ""⟩ := by decide +kernel
example : runCli (cliIsCrate CharSem.ascii) anyVers (fun _ _ => some "code")
    { input := "in.json", crates := ["base64@0.21.0"] } = ⟨0, some ("in.rs", "code"), ""⟩ := by decide +kernel

end TypifyModel.C15
