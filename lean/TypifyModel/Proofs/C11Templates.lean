import TypifyModel.Generated.Templates
/-! The impl templates `type_entry.rs` emits (table T10, regenerated from the source on every run) are the ones the run-time models
    of the string conversions assume (`Model/StrConv.lean`: `Display` of a newtype forwards to the inner value's `Display`, of an
    untagged enum to the variant's, of a simple enum writes the variant's string; `FromStr` of an untagged enum tries the variants
    in declaration order and takes the first that parses; every `TryFrom<&str>` / `<&String>` / `<String>` goes through `parse()`). -/
namespace TypifyModel.C11T
open TypifyModel.Generated

/-- a row of T10: trait, source type, trait path, method, body tokens -/
abbrev Row := String × String × String × String × String
def Row.trait (r : Row) : String := r.1
def Row.source (r : Row) : String := r.2.1
def Row.body (r : Row) : String := r.2.2.2.2

def displayBodies : List String := [
  "match * self { # (Self ::# match_variants => write ! (f , # display_strs) ,) * }",
  "match self { # (Self ::# variant_name (x) => x . fmt (f) ,) * }",
  "self . 0 . fmt (f)"]

def fromStrBodies : List String := [
  "match value { # (# match_strs => Ok (Self ::# match_variants) ,) * _ => Err (\"invalid value\" . into ()) , }",
  "# (if let Ok (v) = value . parse () { Ok (Self ::# variant_name (v)) } else) * { Err (\"string conversion failed for all variants\" . into ()) }",
  "Ok (Self (value . to_string ()))",
  "Ok (Self (value . parse () ?))",
  "# max # min # pat Ok (Self (value . to_string ()))"]

def isStringSource (r : Row) : Bool := r.trait == "TryFrom" && (r.source == "&str" || r.source == "&String" || r.source == "String")

/-- **every emitted `Display` forwards to `Display`** (of the inner value / the variant / a `write!` of the variant's string) -/
theorem display_templates_forward : ∀ r ∈ implTemplates, Row.trait r = "Display" → Row.body r ∈ displayBodies := by decide +kernel

/-- **every emitted `FromStr` is one of the five the models describe** (in particular: variants are tried in declaration order) -/
theorem fromstr_templates_known : ∀ r ∈ implTemplates, Row.trait r = "FromStr" → Row.body r ∈ fromStrBodies := by
  -- `String.decEq` on the long bodies is slow in the kernel
  simp only [implTemplates, List.mem_cons, List.not_mem_nil, or_false, Row.trait, fromStrBodies, Row.body,
    forall_eq_or_imp, String.reduceEq, or_self, imp_self, or_true, forall_eq, and_self]

/-- **every `TryFrom` of a string goes through `parse()`**, i.e. through `FromStr` -/
theorem tryfrom_string_templates_parse : ∀ r ∈ implTemplates, isStringSource r = true → Row.body r = "value . parse ()" := by decide +kernel

/-- the table is not empty where it matters: three `Display`, five `FromStr`, twelve string `TryFrom` templates -/
theorem template_counts :
    (implTemplates.filter (fun r => Row.trait r == "Display")).length = 3 ∧
    (implTemplates.filter (fun r => Row.trait r == "FromStr")).length = 5 ∧
    (implTemplates.filter isStringSource).length = 12 := by decide +kernel

end TypifyModel.C11T
