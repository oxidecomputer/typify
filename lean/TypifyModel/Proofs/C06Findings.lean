import TypifyModel.Proofs.C06
/-! A C06 statement without `WFDefault`, refuted on the model of the typify source under /repo
    (finding C06-nested-default); repairing the finding changes the model and the witness. -/
namespace TypifyModel.C06
open TypifyModel TypifyModel.Serde TypifyModel.Defaults

/-- `S { a: i64 = 5 }` -/
def nestedSpace : Space := { entries := [
  (0, ⟨.integer "i64", [], []⟩),
  (1, ⟨.struct "S" [⟨"a", .none, .dflt (.int 5), 0⟩] false none, [], []⟩)] }

/-- C06-nested-default: for the default `{}` at type `S`, typify writes `S { a: Default::default() }`:
    well typed, but its value has `a = 0` where deserializing `{}` gives `a = 5` -/
theorem default_value_full_false : ¬ default_value_full := by
  intro h
  obtain ⟨e, ho, _, he⟩ := h exExt nestedSpace 3 1 (.obj []) .specific rfl
  have ho' : outputValue exExt nestedSpace 3 1 (.obj []) = .ok (.structLit "S" [("a", none)]) := rfl
  rw [ho'] at ho
  injection ho with ho
  subst ho
  have h3 := he 3
  have e1 : eval exExt nestedSpace 3 (.structLit "S" [("a", none)]) 1 = .ok (.struct [("a", .int 0)]) := rfl
  have e2 : de exExt nestedSpace 3 1 (.obj []) = .ok (.struct [("a", .int 5)]) := rfl
  rw [e1, e2] at h3
  simp at h3

/-- the hypothesis of the partial theorem is what fails on the witness -/
example : WFDefault exExt nestedSpace 3 1 (.obj []) = false := by rfl

end TypifyModel.C06
