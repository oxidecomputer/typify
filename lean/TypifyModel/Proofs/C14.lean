import TypifyModel.Proofs.Lemmas.SettingsApplyLemmas
import TypifyModel.Generated.Derives
/-! # C14 — replacement, conversion, patch, derive and map-type settings apply everywhere; none of
    them (nor the builder) changes what the remaining types accept or emit

∀ IR, ∀ settings, over the Render model (`Model/Render.lean`; tied to the real `to_stream()` by the M2
correspondence under every settings assignment the check draws).

How the settings reach the IR in the real code (validated on every dump by `tools/props/c14.py`):
* **replace** — `add_ref_types_impl` (lib.rs:644-673) looks the definition up by
  `sanitize(def_name, Pascal)` and stores `TypeEntry::new_native(replace_type, impls)` under the
  definition's id: hypothesis "`refId(def) ↦ native path`".
* **convert** — `convert_schema` (convert.rs:36) consults `cache.lookup` (schema with `metadata: None`)
  before anything else and returns the same `new_native` entry.
* **patch** — `type_patch` (util.rs:803) is called by every `from_metadata` constructor
  (type_entry.rs:295/381/412/442/474/512): the entry is *stored* under the new name with the patch's
  derives in `extra_derives`. Uses refer to entries by id, so nothing else has to be renamed.
* **derives / map type / builder** — read from `settings` at render time.

`Serde.de` / `Serde.se` / `StrConv.*` take an IR and no settings at all, so in the model
"the wire behaviour of a type is independent of derives, builder and map type" is definitional
(those three settings leave the IR dump unchanged — checked on every case), and for
patch/replace/convert it is "the entries of the unaffected types are unchanged" — also checked on
dumps. The substance of the non-interference clause is the compiled-code comparison of the check. -/
namespace TypifyModel.C14
open TypifyModel TypifyModel.Render TypifyModel.SettingsApply

/-- **C14 (structure): every type expression of an emitted item — member types, variant payloads,
    the types in impl headers — is `type_ident` of a child id of the entry** (or a tuple of such) -/
theorem uses_by_id (tb : DeriveTables) (st : Settings) (σ : Space) (ent : Entry) (it : ItemS)
    (fns : List String) (h : itemOf tb st σ ent = some (it, fns)) :
    ∀ s, s ∈ typeExprs it → ExprOf st σ (childIds ent) s := by
  intro s hs
  obtain ⟨det, ed, im⟩ := ent
  -- `hs`: `s` is the type of a member, or a payload type of a variant, or a type an impl header mentions;
  -- a header that mentions a type is `From` / `TryFrom` / `Into` the inner type, or `From` a variant payload
  cases det <;> cases h <;>
    simp only [typeExprs, List.mem_append, List.mem_flatten, List.mem_map, List.map_map, Function.comp] at hs
  case struct n ps deny d =>
    rcases hs with (⟨p, hp, rfl⟩ | ⟨_, ⟨v, hv, _⟩, _⟩) | ⟨_, ⟨k, hk, rfl⟩, hs⟩
    · exact Or.inl ⟨p.ty, List.mem_map_of_mem hp, rfl⟩
    · cases hv
    · rcases mem_implTys.mp hs with rfl | rfl | rfl | rfl <;> simp at hk
  case enum n tag vs deny d bes =>
    have sub : ∀ v ∈ vs, ∀ t ∈ variantIds v, t ∈ childIds ⟨.enum n tag vs deny d bes, ed, im⟩ :=
      fun v hv t ht => List.mem_flatten.mpr ⟨_, List.mem_map_of_mem hv, ht⟩
    rcases hs with (⟨f, hf, _⟩ | ⟨_, ⟨v, hv, rfl⟩, hs⟩) | ⟨_, ⟨k, hk, rfl⟩, hs⟩
    · cases hf
    · exact (variantS_tys st σ n v s hs).mono (sub v hv)
    · rcases mem_implTys.mp hs with rfl | rfl | rfl | rfl <;>
        simp [strTryFroms, not_mem_convenienceFrom] at hk
      obtain ⟨v, hv, _, e, he⟩ := mem_convenienceFrom hk
      cases e
      exact he.mono (sub v hv)
  case newtype n inner c d =>
    have key : s = typeIdent st σ fuel inner → ExprOf st σ [inner] s :=
      fun e => Or.inl ⟨inner, List.mem_singleton.mpr rfl, e⟩
    rcases hs with (⟨f, hf, rfl⟩ | ⟨_, ⟨v, hv, _⟩, _⟩) | ⟨_, ⟨k, hk, rfl⟩, hs⟩
    · cases List.mem_singleton.mp hf; exact key rfl
    · cases hv
    · cases c <;> rcases mem_implTys.mp hs with rfl | rfl | rfl | rfl <;>
        simp [strTryFroms] at hk <;> exact key hk

/-- **C14 (patch, positive half): a use of a named entry shows the name stored in the entry** — after
    a patch that is the new name; at the definition (`item_name`) and at every use. -/
theorem rename_global (st : Settings) (σ : Space) (f : Nat) (t : Id) (ent : Entry) (n' : String)
    (hg : σ.get t = some ent) (hn : ent.details.name? = some n') :
    typeIdent st σ (f + 1) t = n' ∧ typeToks σ (f + 1) t = [.name n'] := by
  obtain ⟨det, ed, im⟩ := ent
  unfold typeIdent typeToks
  cases det <;> cases hn <;> simp only [hg, and_self]

/-- **C14 (patch, negative half): if no entry is named `N` (the old name), `N` is the name of no
    item, of no builder, and occurs as a type name in no type expression of the output.**
    Side condition `NoEntryNamed σ N` is decidable and evaluated on the real IR dump by the check
    (it fails by design when the patch renames onto, or swaps with, another type's name). -/
theorem patch_everywhere (tb : DeriveTables) (st : Settings) (σ : Space) (N : String)
    (hN : NoEntryNamed σ N) :
    (∀ it, it ∈ (render tb st σ).items → it.name ≠ N ∧
       ∀ s, s ∈ typeExprs it → ∃ toks, s = flat st toks ∧ Tok.name N ∉ toks) ∧
    N ∉ (render tb st σ).builders := by
  have hitem : ∀ it, it ∈ (render tb st σ).items → it.name ≠ N := by
    intro it hit hc
    obtain ⟨e, fns, he, hi⟩ := render_items tb st σ it hit
    exact hN e he (hc ▸ item_name tb st σ e.2 it fns hi)
  refine ⟨fun it hit => ⟨hitem it hit, fun s hs => ?_⟩, fun hb => ?_⟩
  · obtain ⟨e, fns, he, hi⟩ := render_items tb st σ it hit
    obtain ⟨toks, rfl, hnames⟩ := (uses_by_id tb st σ e.2 it fns hi s hs).toks
    refine ⟨toks, rfl, fun hc => ?_⟩
    obtain ⟨e', he', hn'⟩ := hnames N hc
    exact hN e' he' hn'
  · -- a builder carries the name of a struct item
    have hb' : N ∈ if st.structBuilder then
        toSet ((render tb st σ).items.filterMap fun i => if i.kind = "struct" then some i.name else none) else [] := hb
    split at hb'
    · obtain ⟨it, hit, hk⟩ := List.mem_filterMap.mp (mem_toSet.mp hb')
      split at hk
      · exact hitem it hit (Option.some.inj hk)
      · cases hk
    · cases hb'

/-- **C14 (derives): every globally requested derive, and every derive of the type's patch, is on
    the item** -/
theorem derives_everywhere (tb : DeriveTables) (st : Settings) (σ : Space) (ent : Entry) (it : ItemS)
    (fns : List String) (h : itemOf tb st σ ent = some (it, fns)) :
    (∀ d, d ∈ st.extraDerives → d ∈ it.derives) ∧ (∀ d, d ∈ ent.extraDerives → d ∈ it.derives) :=
  ⟨fun _ hd => (mem_derives h).mpr (Or.inr (Or.inl hd)), fun _ hd => (mem_derives h).mpr (Or.inr (Or.inr hd))⟩

/-- … on every item of the output -/
theorem derives_everywhere_render (tb : DeriveTables) (st : Settings) (σ : Space) :
    ∀ it, it ∈ (render tb st σ).items → ∀ d, d ∈ st.extraDerives → d ∈ it.derives := by
  intro it hit d hd
  obtain ⟨e, fns, _, hi⟩ := render_items tb st σ it hit
  exact (derives_everywhere tb st σ e.2 it fns hi).1 d hd

/-- **C14 (map type): a map-typed use is `<configured map type><K,V>`, except string→any maps,
    which are `::serde_json::Map<String, Value>`** -/
theorem map_everywhere (st : Settings) (σ : Space) (f : Nat) (t k v : Id) (ent : Entry)
    (hg : σ.get t = some ent) (hd : ent.details = .map k v) :
    (isStrAny σ k v = false →
      typeIdent st σ (f + 1) t = st.mapType ++ "<" ++ typeIdent st σ f k ++ "," ++ typeIdent st σ f v ++ ">") ∧
    (isStrAny σ k v = true →
      typeIdent st σ (f + 1) t = "::serde_json::Map<::std::string::String,::serde_json::Value>") := by
  generalize hK : typeIdent st σ f k = K
  generalize hV : typeIdent st σ f v = V
  unfold typeIdent
  simp only [hg, hd, hK, hV]
  split
  · rename_i h1 h2; simp [isStrAny_of_get h1 h2]
  · rename_i hne; simp [isStrAny_of_not hne]

/-- **C14 (map type): the `skip_serializing_if` path of an optional map-typed member names the same
    map type** (`generate_serde_attr`, structs.rs:363-389) -/
theorem map_skip_everywhere (st : Settings) (σ : Space) (tn : String) (p : Field) (k v : Id) (ent : Entry)
    (hs : p.state = .optional) (hg : σ.get p.ty = some ent) (hd : ent.details = .map k v) :
    (isStrAny σ k v = false → SerdeArg.skipIf (st.mapType ++ "::is_empty") ∈ (fieldSerde st σ tn p).1) ∧
    (isStrAny σ k v = true → SerdeArg.skipIf "::serde_json::Map::is_empty" ∈ (fieldSerde st σ tn p).1) := by
  obtain ⟨det, ed, im⟩ := ent
  cases hd
  rw [fieldSerde_attrs, stateArgs, hs, skipPath, hg]
  constructor <;> intro h <;> simp [h]

/-- the configured map type occurs in a type expression only as the head of a map-typed entry: the
    text of every other token is independent of the settings -/
theorem only_map_type_varies {st st' : Settings} (h : st.mapType = st'.mapType) (σ : Space) (f : Nat) (t : Id) :
    typeIdent st σ f t = typeIdent st' σ f t := congrFun (typeIdent_congr h σ f) t

/-- **C14 (replace, convert): an entry whose details are a native path yields no item** -/
theorem replace_not_generated (tb : DeriveTables) (st : Settings) (σ : Space) (ent : Entry)
    (path : String) (ps : List Id) (hd : ent.details = .native path ps) : itemOf tb st σ ent = none := by
  unfold itemOf; rw [hd]

/-- **C14 (replace, convert): every use of an id that maps to a native entry shows the native path** -/
theorem replace_use (st : Settings) (σ : Space) (f : Nat) (t : Id) (ent : Entry) (path : String)
    (hg : σ.get t = some ent) (hd : ent.details = .native path []) :
    typeIdent st σ (f + 1) t = path ∧ typeToks σ (f + 1) t = [.lit path] := by
  unfold typeIdent typeToks
  simp [hg, hd]

/-- **C14 (replace, convert), at every use site of the output**: if a child id of an entry maps to a
    native entry, the item's expression for it is the native path. -/
theorem replace_everywhere (st : Settings) (σ : Space) (t : Id) (ent : Entry) (path : String)
    (hg : σ.get t = some ent) (hd : ent.details = .native path []) :
    typeIdent st σ Render.fuel t = path := (replace_use st σ 63 t ent path hg hd).1

theorem itemOf_congr_map (tb : DeriveTables) {st st' : Settings} (h : st.mapType = st'.mapType)
    (hd : st.extraDerives = st'.extraDerives) (hb : st.structBuilder = st'.structBuilder)
    (σ : Space) (ent : Entry) : itemOf tb st σ ent = itemOf tb st' σ ent := by
  unfold itemOf
  simp only [typeIdent_congr h, fieldS_congr h, variantS_congr h, convenienceFrom_congr h, hd, hb]

/-- **C14 (builder): enabling the builder interface changes no type definition** — names, kinds,
    visibility, derives, serde attributes, members, variants, every impl other than the inherent
    `builder()` and the generated default fns are the same with the builder on and off. -/
theorem builder_inert (tb : DeriveTables) (st : Settings) (b : Bool) (σ : Space) (ent : Entry) :
    (itemOf tb { st with structBuilder := b } σ ent).map (fun r => (typeDef r.1, r.2)) =
    (itemOf tb st σ ent).map (fun r => (typeDef r.1, r.2)) := by
  have hm : ({ st with structBuilder := b } : Settings).mapType = st.mapType := rfl
  unfold itemOf
  simp only [typeIdent_congr hm, fieldS_congr hm, variantS_congr hm, convenienceFrom_congr hm]
  split
  · simp only [Option.map_some, Option.some.injEq, Prod.mk.injEq, and_true, typeDef]
    cases b <;> cases st.structBuilder <;> simp [List.filter_append]
  · rfl
  · rfl
  · rfl

/-- **C14 (non-interference, syntactic half): global derives and the builder change nothing of a
    type definition but its derive list** (same map type) -/
theorem settings_noninterference_types (tb : DeriveTables) {st st' : Settings} (h : st.mapType = st'.mapType)
    (σ : Space) (ent : Entry) :
    (itemOf tb st σ ent).map (fun r => (typeDefNoDerives r.1, r.2)) =
    (itemOf tb st' σ ent).map (fun r => (typeDefNoDerives r.1, r.2)) := by
  unfold itemOf
  simp only [typeIdent_congr h, fieldS_congr h, variantS_congr h, convenienceFrom_congr h]
  split
  · simp only [Option.map_some, Option.some.injEq, Prod.mk.injEq, and_true, typeDefNoDerives, typeDef]
    cases st.structBuilder <;> cases st'.structBuilder <;> simp [List.filter_append]
  · rfl
  · rfl
  · rfl

theorem fieldSerde_wire (st st' : Settings) (σ : Space) (tn : String) (p : Field) :
    (fieldSerde st σ tn p).1.map eraseSkip = (fieldSerde st' σ tn p).1.map eraseSkip ∧
    (fieldSerde st σ tn p).2 = (fieldSerde st' σ tn p).2 := by
  unfold fieldSerde
  cases p.state with
  | required => exact ⟨rfl, rfl⟩
  | optional =>
    simp only
    split
    · exact ⟨rfl, rfl⟩
    · exact ⟨rfl, rfl⟩
    · split
      · exact ⟨rfl, rfl⟩
      · simp [eraseSkip]
    · exact ⟨rfl, rfl⟩
  | dflt d => exact ⟨rfl, rfl⟩

theorem fieldS_wire (st st' : Settings) (σ : Space) (tn : String) (b : Bool) (p : Field) :
    fieldWire (fieldS st σ tn b p).1 = fieldWire (fieldS st' σ tn b p).1 := by
  simp only [fieldWire, fieldS_name, fieldS_serde, (fieldSerde_wire st st' σ tn p).1]

theorem variantS_wire (st st' : Settings) (σ : Space) (en : String) (v : Variant) :
    (fun (w : VariantS) => (w.name, w.serde, w.kind, w.tys.length, w.fields.map fieldWire)) (variantS st σ en v).1 =
    (fun (w : VariantS) => (w.name, w.serde, w.kind, w.tys.length, w.fields.map fieldWire)) (variantS st' σ en v).1 := by
  unfold variantS
  cases v.details with
  | simple => simp
  | item t => simp
  | tuple ts =>
    simp only
    split
    · simp
    · simp
  | struct ps =>
    simp only [List.map_map, Prod.mk.injEq, true_and]
    apply List.map_congr_left
    intro p _
    exact fieldS_wire st st' σ _ false p

/-- **C14 (non-interference, syntactic half): no setting changes what decides an item's wire format**
    — its name, kind, serde attributes, member names and member serde arguments (the
    `skip_serializing_if` path, which names the map type, erased), variant names, kinds, arities.
    ∀ st st': derives, builder, map type. (Patch/replace/convert act on the IR, not on rendering.) -/
theorem settings_noninterference (tb : DeriveTables) (st st' : Settings) (σ : Space) (ent : Entry) :
    (itemOf tb st σ ent).map (fun r => wire r.1) = (itemOf tb st' σ ent).map (fun r => wire r.1) := by
  unfold itemOf
  split
  · simp only [Option.map_some, Option.some.injEq, wire, List.map_map, List.map_nil, Prod.mk.injEq, true_and, and_true]
    apply List.map_congr_left
    intro p _
    exact fieldS_wire st st' σ _ true p
  · simp only [Option.map_some, Option.some.injEq, wire, List.map_map, List.map_nil, Prod.mk.injEq, true_and]
    apply List.map_congr_left
    intro v _
    exact variantS_wire st st' σ _ v
  · simp [wire, fieldWire]
  · rfl

open TypifyModel.Generated

/-- an IR as the real code leaves it after `replace Foo ↦ ::my::Foo`, `patch Bar ↦ Baz (+Hash)`:
    1 = Baz (was Bar) with a member of the replaced type and a map of itself, 2 = the replaced
    definition, 3 = an enum with a payload variant, 4/5 = string / any, 6 = map<String,Baz>,
    7 = map<String,Value>, 8 = Option<Foo> -/
def exSpace : Space := { entries := [
  (1, ⟨.struct "Baz" [⟨"y", .none, .optional, 8⟩, ⟨"m", .none, .optional, 6⟩, ⟨"a", .none, .optional, 7⟩] false none, ["Hash"], []⟩),
  (2, ⟨.native "::my::Foo" [], [], [.display]⟩),
  (3, ⟨.enum "E" .external [⟨"a", "A", .item 1⟩, ⟨"b", "B", .tuple [2, 4]⟩] false none [], [], []⟩),
  (4, ⟨.string, [], []⟩), (5, ⟨.jsonValue, [], []⟩),
  (6, ⟨.map 4 1, [], []⟩), (7, ⟨.map 4 5, [], []⟩), (8, ⟨.option 2, [], []⟩)] }

def exSt : Settings := { extraDerives := ["JsonSchema"], mapType := "::std::collections::BTreeMap" }

-- uses_by_id / patch_everywhere: the enum's payloads are `Baz` and `(::my::Foo,::std::string::String)`;
-- no entry is named `Bar`; `Baz` does occur
example : ∃ it fns, itemOf deriveTables exSt exSpace (exSpace.entries[2]!).2 = some (it, fns) ∧
    typeExprs it = ["Baz", "::my::Foo", "::std::string::String", "Baz", "(::my::Foo,::std::string::String)"] ∧
    NoEntryNamed exSpace "Bar" ∧ ¬ NoEntryNamed exSpace "Baz" := by
  refine ⟨_, _, rfl, ?_, ?_, ?_⟩ <;> decide +kernel

-- derives_everywhere / map_everywhere / map_skip_everywhere / replace_*: the struct
example : ∃ it fns, itemOf deriveTables exSt exSpace (exSpace.entries[0]!).2 = some (it, fns) ∧
    "JsonSchema" ∈ it.derives ∧ "Hash" ∈ it.derives ∧
    it.fields.map (·.ty) = ["::std::option::Option<::my::Foo>",
      "::std::collections::BTreeMap<::std::string::String,Baz>",
      "::serde_json::Map<::std::string::String,::serde_json::Value>"] ∧
    SerdeArg.skipIf "::std::collections::BTreeMap::is_empty" ∈ (it.fields[1]!).serde ∧
    SerdeArg.skipIf "::serde_json::Map::is_empty" ∈ (it.fields[2]!).serde ∧
    isStrAny exSpace 4 1 = false ∧ isStrAny exSpace 4 5 = true := by
  refine ⟨_, _, rfl, ?_, ?_, ?_, ?_, ?_, ?_, ?_⟩ <;> decide +kernel

example : itemOf deriveTables exSt exSpace (exSpace.entries[1]!).2 = none ∧
    (render deriveTables exSt exSpace).items.map (·.name) = ["Baz", "E"] := by
  constructor <;> decide +kernel

-- builder_inert / settings_noninterference: the builder does add something (so the projection matters),
-- and the two map types do give different items with the same wire projection
example : (render deriveTables { exSt with structBuilder := true } exSpace).builders = ["Baz"] ∧
    ImplK.builderFn ∈ ((render deriveTables { exSt with structBuilder := true } exSpace).items[0]!).impls ∧
    ImplK.builderFn ∉ ((render deriveTables exSt exSpace).items[0]!).impls := by
  refine ⟨?_, ?_, ?_⟩ <;> decide +kernel

example : ((render deriveTables exSt exSpace).items[0]!).fields.map (·.ty) ≠
    ((render deriveTables {} exSpace).items[0]!).fields.map (·.ty) := by decide +kernel

end TypifyModel.C14
