import TypifyModel.Proofs.Lemmas.DefaultsEnum
import TypifyModel.Proofs.C18
import TypifyModel.Proofs.Lemmas.SerdeBasics
/-! # C06 — defaults are reproduced exactly, or rejected when the schema is added

∀ IR (`Space`), ∀ JSON default values, ∀ fuel. `Model/Defaults.lean` is `validate_value` /
`has_default` / `check_defaults`, `Model/Value.lean` is `output_value` / `default_fn` plus the typing
judgement and evaluator of the emitted expressions; `Serde.de` / `Serde.dflt` / `Builder.initSlot` are
the run-time meaning of the generated code (tied to compiled code by M3). "Serializes to the schema's
default up to filling of nested defaults" is `eval e = de d`: `se ∘ de` is the filling.

Hypothesis `WFDefault` (Model/DefaultsWF.lean) names the fragment and why each exclusion is made;
one of them, C06-nested-default, is refuted in `Proofs/C06Findings.lean`. -/
namespace TypifyModel.C06
open TypifyModel TypifyModel.Serde TypifyModel.Defaults

/-- full statement: whatever `validate_value` accepts is rendered as a well-typed expression whose
    value is what deserializing the default gives -/
def default_value_full : Prop :=
  ∀ (x : Ext) (σ : Space) (n : Nat) (t : Id) (d : Json) (k : DKind), validateValue x σ n t d = .ok k →
    ∃ e, outputValue x σ n t d = .ok e ∧ hasType σ n e t = true ∧ ∀ m, eval x σ m e t = de x σ m t d

/-- **C06 default_value** (inside `WFDefault`): the emitted expression is well typed at the
    property's type and evaluates, for every fuel, to exactly `de d`, which is never a rejection -/
theorem default_value_partial (x : Ext) (σ : Space) (n : Nat) (t : Id) (d : Json) (k : DKind)
    (hv : validateValue x σ n t d = .ok k) (hw : WFDefault x σ n t d = true) :
    ∃ e, outputValue x σ n t d = .ok e ∧ hasType σ n e t = true ∧
      ∀ m, eval x σ m e t = de x σ m t d ∧ de x σ m t d ≠ .error .reject :=
  good_all x σ n t d k hv hw

def exSpace : Space := { entries := [
  (0, ⟨.integer "u8", [], []⟩),
  (1, ⟨.string, [], []⟩),
  (2, ⟨.vec 0, [], []⟩),
  (3, ⟨.enum "Color" .external [⟨"red", "Red", .simple⟩, ⟨"rgb", "Rgb", .tuple [0, 0, 0]⟩] false none [], [], []⟩),
  (4, ⟨.option 1, [], []⟩),
  (5, ⟨.struct "S" [⟨"a", .none, .required, 2⟩, ⟨"c", .rename "C", .required, 3⟩, ⟨"o", .none, .optional, 4⟩] false none, [], []⟩),
  (6, ⟨.tuple [0], [], []⟩)] }

def exExt : Ext := { regex := fun _ _ => true }

def exDefault : Json := .obj [("C", .obj [("rgb", .arr [.int 1, .int 2, .int 255])]), ("a", .arr [.int 7])]

/-- non-vacuity: a struct default with a vector, a renamed member holding a tuple variant, and an
    omitted optional member satisfies both hypotheses; a one-element tuple does too -/
example : validateValue exExt exSpace 6 5 exDefault = .ok .specific ∧ WFDefault exExt exSpace 6 5 exDefault = true := by
  refine ⟨?_, ?_⟩ <;> rfl
example : validateValue exExt exSpace 6 6 (.arr [.int 3]) = .ok .specific ∧
    WFDefault exExt exSpace 6 6 (.arr [.int 3]) = true ∧
    outputValue exExt exSpace 6 6 (.arr [.int 3]) = .ok (.paren [.numLit (.int 3) "u8"] true) := by
  refine ⟨?_, ?_, ?_⟩ <;> rfl

/-- the property without `WFDefault`; neither proved nor refuted, kept to show what
    `bad_default_partial` assumes beyond it -/
def bad_default_full : Prop :=
  ∀ (x : Ext) (σ : Space) (n m : Nat) (t : Id) (d : Json), de x σ m t d = .error .reject →
    ∀ k, validateValue x σ n t d ≠ .ok k

/-- **C06 bad_default** (inside `WFDefault`): a default that does not deserialize into the
    property's type is never accepted by `validate_value` -/
theorem bad_default_partial (x : Ext) (σ : Space) (n m : Nat) (t : Id) (d : Json)
    (hw : WFDefault x σ n t d = true) (hbad : de x σ m t d = .error .reject) :
    ∀ k, validateValue x σ n t d ≠ .ok k := by
  intro k hv
  obtain ⟨_, _, _, h⟩ := good_all x σ n t d k hv hw
  exact (h m).2 hbad

/-- the same: `validate_value` answers with one of its three errors -/
theorem bad_default_is_err (x : Ext) (σ : Space) (n m : Nat) (t : Id) (d : Json)
    (hw : WFDefault x σ n t d = true) (hbad : de x σ m t d = .error .reject) :
    validateValue x σ n t d = .error .invalid ∨ validateValue x σ n t d = .error .panic ∨
      validateValue x σ n t d = .error .fuel := by
  cases h : validateValue x σ n t d with
  | ok k => exact absurd h (bad_default_partial x σ n m t d hw hbad k)
  | error e => cases e <;> simp

/-- non-vacuity: 300 for `u8`, a number for a string, a wrong tuple arity, an unknown variant, a missing
    required member: inside `WFDefault`, rejected by `de` — and by `validate_value` -/
example : WFDefault exExt exSpace 6 0 (.int 300) = true ∧ de exExt exSpace 6 0 (.int 300) = .error .reject ∧
    validateValue exExt exSpace 6 0 (.int 300) = .error .invalid := by
  refine ⟨?_, ?_, ?_⟩ <;> rfl
example : WFDefault exExt exSpace 6 1 (.int 5) = true ∧ de exExt exSpace 6 1 (.int 5) = .error .reject ∧
    validateValue exExt exSpace 6 1 (.int 5) = .error .invalid := by
  refine ⟨?_, ?_, ?_⟩ <;> rfl
example : WFDefault exExt exSpace 6 3 (.obj [("rgb", .arr [.int 1])]) = true ∧
    de exExt exSpace 6 3 (.obj [("rgb", .arr [.int 1])]) = .error .reject ∧
    validateValue exExt exSpace 6 3 (.obj [("rgb", .arr [.int 1])]) = .error .invalid := by
  refine ⟨?_, ?_, ?_⟩ <;> rfl
example : WFDefault exExt exSpace 6 3 (.str "blue") = true ∧ de exExt exSpace 6 3 (.str "blue") = .error .reject ∧
    validateValue exExt exSpace 6 3 (.str "blue") = .error .invalid := by
  refine ⟨?_, ?_, ?_⟩ <;> rfl
example : WFDefault exExt exSpace 6 5 (.obj [("a", .arr [])]) = true ∧
    de exExt exSpace 6 5 (.obj [("a", .arr [])]) = .error .reject ∧
    validateValue exExt exSpace 6 5 (.obj [("a", .arr [])]) = .error .invalid := by
  refine ⟨?_, ?_, ?_⟩ <;> rfl

/-- **C06 generic_default**: `defaults::default_u64::<T, N>` / `default_i64` / `default_nzu64`
    (`T::try_from(N).unwrap()`) yield `N` when `N` is in `T`'s range and panic otherwise -/
theorem generic_default (ty : String) (r : RTy) (h : rtyOfName ty = some r) (n : Int) (nz : Bool) :
    genericRun ty n nz =
      if nz && n == 0 then .panic else if r.inRange n then .value (.int n) else .panic := by
  unfold genericRun RTy.inRange
  rw [h]

/-- the function `default_fn` names, run -/
def fnValue (x : Ext) (σ : Space) (m : Nat) (t : Id) : FnOut → Except E Val
  | .boolTrue => .ok (.bool true)
  | .u64 ty n => (match genericRun ty n false with | .value v => .ok v | _ => .error .unsupported)
  | .nzu64 ty n => (match genericRun ty n true with | .value v => .ok v | _ => .error .unsupported)
  | .i64 ty n => (match genericRun ty n false with | .value v => .ok v | _ => .error .unsupported)
  | .custom e => eval x σ m e t
  | _ => .error .unsupported

/-- **which generic defaults reach code generation**: for an integer-typed property whose default
    `validate_value` accepts, `default_fn` names a generic function (or none is needed), the value is in
    the type's range — C10's range check is repeated exactly, in integers, by `integer_fits` — so the
    function does not panic, and it returns what deserializing the default gives -/
theorem generic_default_reaches (x : Ext) (σ : Space) (n m : Nat) (t : Id) (d : Json) (k : DKind)
    (name : String) (ed : List String) (im : List Impl) (r : RTy)
    (hg : σ.get t = some ⟨.integer name, ed, im⟩) (hr : rtyOfName name = some r)
    (hv : validateValue x σ (n + 1) t d = .ok k) :
    ∃ v, d = .int v ∧ r.inRange v ∧ de x σ (m + 1) t d = .ok (.int v) ∧
      (defaultFn x σ n t d = .u64 name v ∨ defaultFn x σ n t d = .nzu64 name v ∨ defaultFn x σ n t d = .i64 name v) ∧
      fnValue x σ (m + 1) t (defaultFn x σ n t d) = .ok (.int v) := by
  simp only [validateValue, hg] at hv
  obtain ⟨v, rfl, ⟨hlo, hhi⟩, hu⟩ := validateInteger_ok hv hr
  have hrun : ∀ nz : Bool, (nz = true → r.isNonZero = true) → genericRun name v nz = .value (.int v) := by
    intro nz hnz
    have hz : (nz && v == 0) = false := by
      refine Bool.eq_false_iff.mpr fun hc => ?_
      simp only [Bool.and_eq_true, beq_iff_eq] at hc
      obtain ⟨h1, rfl⟩ := hc
      exact Int.not_le.mpr (nz_lo (hnz h1)) hlo
    rw [generic_default name r hr, hz]
    simp only [Bool.false_eq_true, if_false, RTy.inRange, hlo, hhi, and_self, if_true]
  refine ⟨v, rfl, ⟨hlo, hhi⟩, by simp only [de, hg, hr, hlo, hhi, and_self, if_true], ?_⟩
  simp only [defaultFn, hg, nz_prefix hr]
  rcases hu with hu | ⟨hu, hi⟩
  · simp only [hu]
    cases hz : r.isNonZero
    · simp only [Bool.false_eq_true, if_false, fnValue, hrun false nofun, true_or, and_self]
    · simp only [if_true, fnValue, hrun true (fun _ => hz), true_or, or_true, and_self]
  · simp only [hu, hi, fnValue, hrun false nofun, or_true, and_self]

example : validateValue exExt exSpace 6 0 (.int 200) = .ok (.generic .u64) ∧ genericRun "u8" 200 false = .value (.int 200) ∧
    genericRun "u8" 300 false = .panic ∧ genericRun "::std::num::NonZeroU8" 0 true = .panic := by
  refine ⟨?_, ?_, ?_, ?_⟩ <;> rfl

theorem defaultFn_custom {x : Ext} {σ : Space} {f : Nat} {t : Id} {d : Json} {e : RExpr} {det : Details}
    {ed : List String} {im : List Impl} (hg : σ.get t = some ⟨det, ed, im⟩)
    (hdet : match det with | .unit => False | .boolean => False | .integer _ => False | _ => True)
    (ho : outputValue x σ f t d = .ok e) : defaultFn x σ f t d = .custom e := by
  cases det <;> first | exact hdet.elim | simp only [defaultFn, hg, ho]

theorem default_fn_spec {x : Ext} {σ : Space} {n : Nat} {t : Id} {d : Json} {k : DKind}
    (hv : validateValue x σ (n + 1) t d = .ok k) (hw : WFDefault x σ (n + 1) t d = true)
    (hs : hasDefault σ t (some d) = .dflt d) (m : Nat) :
    fnValue x σ (m + 1) t (defaultFn x σ (n + 1) t d) = de x σ (m + 1) t d ∧
    ((∃ e, defaultFn x σ (n + 1) t d = .custom e ∧ outputValue x σ (n + 1) t d = .ok e) ∨
      defaultFn x σ (n + 1) t d = .boolTrue ∨
      ∃ ty v, defaultFn x σ (n + 1) t d = .u64 ty v ∨ defaultFn x σ (n + 1) t d = .nzu64 ty v ∨
        defaultFn x σ (n + 1) t d = .i64 ty v) := by
  obtain ⟨e, ho, -, hr⟩ := good_all x σ (n + 1) t d k hv hw
  obtain ⟨_, det, ed, im, -, hg, -⟩ := accepted_entry hv hw
  cases det
  case unit =>
    -- `has_default` leaves `null` at `()` to `#[serde(default)]`
    simp only [validateValue, hg] at hv
    cases d <;> cases hv
    simp only [hasDefault, hg, Option.map_some] at hs
    cases hs
  case boolean =>
    simp only [validateValue, hg] at hv
    cases d with
    | bool b =>
      cases b
      · simp only [hasDefault, hg, Option.map_some] at hs
        cases hs
      · exact ⟨by simp only [defaultFn, hg, fnValue, de], .inr (.inl (by simp only [defaultFn, hg]))⟩
    | _ => cases hv
  case integer name =>
    simp only [WFDefault, hg] at hw
    obtain ⟨r, hrt⟩ := Option.isSome_iff_exists.mp hw
    obtain ⟨v, -, -, hde, h, hfn⟩ := generic_default_reaches x σ n m t d k name ed im r hg hrt hv
    have hdf : defaultFn x σ (n + 1) t d = defaultFn x σ n t d := by simp only [defaultFn, hg]
    rw [hdf, hde, hfn]
    exact ⟨rfl, .inr (.inr ⟨name, v, h⟩)⟩
  all_goals
    have hc := defaultFn_custom hg trivial ho
    exact ⟨hc ▸ (hr (m + 1)).1, .inl ⟨e, hc, ho⟩⟩

/-- **C06 no_late_panic** (inside `WFDefault`, for a property state `has_default` produces): the
    default-function rendering of `generate_serde_attr` neither panics nor fails -/
theorem no_late_panic_partial (x : Ext) (σ : Space) (n : Nat) (t : Id) (d : Json) (k : DKind)
    (hv : validateValue x σ (n + 1) t d = .ok k) (hw : WFDefault x σ (n + 1) t d = true)
    (hs : hasDefault σ t (some d) = .dflt d) :
    (∃ e, defaultFn x σ (n + 1) t d = .custom e ∧ outputValue x σ (n + 1) t d = .ok e) ∨
    defaultFn x σ (n + 1) t d = .boolTrue ∨
    ∃ ty v, defaultFn x σ (n + 1) t d = .u64 ty v ∨ defaultFn x σ (n + 1) t d = .nzu64 ty v ∨
      defaultFn x σ (n + 1) t d = .i64 ty v :=
  (default_fn_spec hv hw hs 0).2

example : hasDefault exSpace 3 (some (.str "red")) = .dflt (.str "red") ∧
    validateValue exExt exSpace 6 3 (.str "red") = .ok .specific ∧ WFDefault exExt exSpace 6 3 (.str "red") = true := by
  refine ⟨?_, ?_, ?_⟩ <;> rfl

/-! ## default_same: one default, three consumers -/

/-- the value all three consumers use for a property with `state = dflt d` -/
def propDefault (x : Ext) (σ : Space) (f : Nat) (p : Field) (d : Json) : Except E Val :=
  match de x σ f p.ty d with
  | .ok v => .ok v
  | .error .reject => .error .unsupported
  | .error e => .error e

/-- **C06 default_same (builder)**: the initial slot of `builder::T` holds that value -/
theorem default_same_builder (x : Ext) (σ : Space) (f : Nat) (p : Field) (d : Json) (hs : p.state = .dflt d) :
    Builder.initSlot x σ f p = (match propDefault x σ f p d with | .ok v => .ok (.ok v) | .error e => .error e) := by
  simp only [Builder.initSlot, propDefault, hs]
  cases h : de x σ f p.ty d with
  | ok v => simp
  | error e => cases e <;> simp

/-- **C06 default_same (serde, `Default`)**: for a struct all of whose members have defaults,
    `Default::default()` is what deserializing `{}` gives: every member takes the same default
    function in both -/
theorem default_same_de_dflt (x : Ext) (σ : Space) (f : Nat) (t : Id) (name : String) (props : List Field)
    (deny : Bool) (ed : List String) (im : List Impl)
    (hg : σ.get t = some ⟨.struct name props deny none, ed, im⟩)
    (hfl : hasFlatten props = false) (hall : ∀ p ∈ props, hasDefaultAttr p = true) :
    dflt x σ (f + 1) t = deStruct x σ (f + 1) props deny (.obj []) := by
  have hk : ([] : List (String × Json)).any (fun kv => !(props.any (fun p => p.wire == kv.1))) = false := rfl
  rw [deStruct_obj x σ f props deny [] hfl hk]
  simp only [dflt, hg]
  congr 1
  apply mapM'_congr
  intro p hp
  have := hall p hp
  unfold C18.memberDe hasDefaultAttr at *
  simp only [Json.lookup]
  -- not `required`; in the other two states both sides are the same term
  cases hst : p.state <;> simp_all <;> rfl

/-- **C06 default_same (builder)**: with no setter called it builds what deserializing `{}` gives -/
theorem default_same_build (x : Ext) (σ : Space) (f : Nat) (props : List Field)
    (sl : List (String × Builder.Slot)) (fs : List (String × Val))
    (hfl : hasFlatten props = false) (hall : ∀ p ∈ props, hasDefaultAttr p = true)
    (h : Builder.slots x σ f (fun _ => none) props = .ok sl) (hb : Builder.build sl = .ok fs) :
    deStruct x σ (f + 1) props false (.obj []) = .ok (.struct fs) := by
  have := C18.build_eq_de x σ f (fun _ => none) props [] sl hfl h fun p hp =>
    .inr ⟨rfl, rfl, fun hreq => by
      have := hall p hp
      unfold hasDefaultAttr at this
      cases hst : p.state <;> simp_all⟩
  rwa [hb] at this

/-- **C06 default_same (the function itself)**: the default function of a property — generic or
    custom — returns exactly the value the three consumers are modelled to use (`de d`) -/
theorem default_fn_value (x : Ext) (σ : Space) (n m : Nat) (t : Id) (d : Json) (k : DKind)
    (hv : validateValue x σ (n + 1) t d = .ok k) (hw : WFDefault x σ (n + 1) t d = true)
    (hs : hasDefault σ t (some d) = .dflt d) :
    fnValue x σ (m + 1) t (defaultFn x σ (n + 1) t d) = de x σ (m + 1) t d :=
  (default_fn_spec hv hw hs m).1

end TypifyModel.C06
