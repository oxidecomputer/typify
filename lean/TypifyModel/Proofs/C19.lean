import TypifyModel.Proofs.Lemmas.SettingsApplyLemmas
import TypifyModel.Generated.Derives
/-! # C19 — every generated type is public and carries the promised trait surface

∀ IR, ∀ settings, ∀ named entry. Stated over the Render model (`Model/Render.lean`, tied to the real
`to_stream()` by the M2 correspondence) and over the derive tables regenerated from
`type_entry.rs` on every run (`Generated.deriveTables`). -/
namespace TypifyModel.C19
open TypifyModel TypifyModel.Render TypifyModel.Generated

/-- the user did not ask for serde's own derives again (then typify's choice is the only source) -/
def NoUserSerde (st : Settings) (ent : Entry) : Prop :=
  "::serde::Deserialize" ∉ st.extraDerives ∧ "::serde::Deserialize" ∉ ent.extraDerives

/-- table facts, re-checked against the regenerated tables by `decide` -/
def TablesOK (tb : DeriveTables) : Prop :=
  "Debug" ∈ tb.base ∧ "Clone" ∈ tb.base ∧ "::serde::Serialize" ∈ tb.base ∧ "::serde::Deserialize" ∈ tb.base ∧
  "::serde::Deserialize" ∉ tb.simpleEnum ∧ "::serde::Deserialize" ∉ tb.strNewtype

instance (tb : DeriveTables) : Decidable (TablesOK tb) := by unfold TablesOK; infer_instance

theorem tables_ok : TablesOK deriveTables := by decide +kernel

/-- what the documentation advertises for data-less enums / string newtypes is in the tables -/
theorem tables_advertised :
    (["Copy", "Eq", "Ord", "Hash", "PartialEq", "PartialOrd"].all (· ∈ deriveTables.simpleEnum)) = true ∧
    (["Eq", "Ord", "Hash", "PartialEq", "PartialOrd"].all (· ∈ deriveTables.strNewtype)) = true := by decide +kernel

/-- independent facts about Rust: traits derivable on a field-less enum, traits `String` implements -/
def fieldlessDerivable : List String := ["Copy", "Clone", "Debug", "PartialOrd", "Ord", "PartialEq", "Eq", "Hash"]
def stringImplements : List String := ["Clone", "Debug", "Default", "PartialOrd", "Ord", "PartialEq", "Eq", "Hash"]

/-- the traits typify adds are derivable where it adds them -/
theorem tables_derivable :
    (deriveTables.simpleEnum.all (· ∈ fieldlessDerivable)) = true ∧
    (deriveTables.strNewtype.all (· ∈ stringImplements)) = true ∧
    (newtypeRemovals.all (· == "::serde::Deserialize")) = true := by decide +kernel

/-- **C19: every generated type is public** -/
theorem all_pub (tb : DeriveTables) (st : Settings) (σ : Space) (ent : Entry) (it : ItemS) (fns : List String)
    (h : itemOf tb st σ ent = some (it, fns)) : it.isPub = true := by
  obtain ⟨det, ed, im⟩ := ent
  cases det <;> cases h <;> rfl

/-- **C19: conversion from a reference to itself** -/
theorem from_ref (tb : DeriveTables) (st : Settings) (σ : Space) (ent : Entry) (it : ItemS) (fns : List String)
    (h : itemOf tb st σ ent = some (it, fns)) : ImplK.fromRef ∈ it.impls := by
  obtain ⟨det, ed, im⟩ := ent
  cases det <;> cases h <;> simp

/-- **C19: Debug, Clone, Serialize always derived; Deserialize derived or hand-written — never
    both, never neither** -/
theorem base_traits (tb : DeriveTables) (htb : TablesOK tb) (st : Settings) (σ : Space) (ent : Entry)
    (it : ItemS) (fns : List String) (hu : NoUserSerde st ent)
    (h : itemOf tb st σ ent = some (it, fns)) :
    "Debug" ∈ it.derives ∧ "Clone" ∈ it.derives ∧ "::serde::Serialize" ∈ it.derives ∧
    (("::serde::Deserialize" ∈ it.derives ∧ ImplK.deserialize ∉ it.impls) ∨
     ("::serde::Deserialize" ∉ it.derives ∧ ImplK.deserialize ∈ it.impls)) := by
  obtain ⟨hD, hC, hS, hDe, -, -⟩ := htb
  simp only [mem_derives h]
  -- the user's derives do not decide about `Deserialize`; typify's own do
  have user : ¬ ("::serde::Deserialize" ∈ st.extraDerives ∨ "::serde::Deserialize" ∈ ent.extraDerives) :=
    fun hc => hc.elim hu.1 hu.2
  obtain ⟨det, ed, im⟩ := ent
  cases det <;> cases h
  case enum =>
    exact ⟨by simp [ownDerives, hD], by simp [ownDerives, hC], by simp [ownDerives, hS],
      Or.inl ⟨by simp [ownDerives, hDe], by simp [strTryFroms, not_mem_convenienceFrom]⟩⟩
  case struct =>
    exact ⟨by simp [ownDerives, hD], by simp [ownDerives, hC], by simp [ownDerives, hS],
      Or.inl ⟨by simp [ownDerives, hDe], by simp⟩⟩
  case newtype n inner c d =>
    refine ⟨Or.inl (mem_newtypeDerives_base hD (by decide)), Or.inl (mem_newtypeDerives_base hC (by decide)),
      Or.inl (mem_newtypeDerives_base hS (by decide)), ?_⟩
    cases c
    case none => exact Or.inl ⟨Or.inl (deser_mem_unconstrained hDe), by simp⟩
    all_goals exact Or.inr ⟨fun hc => hc.elim deser_not_mem_constrained user, by simp [strTryFroms]⟩

/-- **C19: data-less enums carry every trait of the simple-enum table** (with `tables_advertised`:
    Copy, Eq, Ord, Hash, PartialEq, PartialOrd) -/
theorem simple_enum_traits (tb : DeriveTables) (st : Settings) (σ : Space) (ent : Entry) (it : ItemS)
    (fns : List String) {n : String} {tag : Tag} {vs : List Variant} {deny : Bool} {d : Option Json}
    {bes : List Bespoke} (hd : ent.details = .enum n tag vs deny d bes) (hs : allSimple vs = true)
    (h : itemOf tb st σ ent = some (it, fns)) : ∀ t ∈ tb.simpleEnum, t ∈ it.derives :=
  fun t ht => (mem_derives h).mpr (Or.inl (by simp [hd, ownDerives, hs, ht]))

/-- **C19: newtypes over plain strings carry every trait of the string-newtype table** -/
theorem string_newtype_traits (tb : DeriveTables) (st : Settings) (σ : Space) (ent : Entry) (it : ItemS)
    (fns : List String) {n : String} {inner : Id} {d : Option Json} {ed : List String} {im : List Impl}
    {c : Constraints} (hnN : "::serde::Deserialize" ∉ tb.strNewtype)
    (hd : ent.details = .newtype n inner c d) (hin : σ.get inner = some ⟨.string, ed, im⟩)
    (h : itemOf tb st σ ent = some (it, fns)) : ∀ t ∈ tb.strNewtype, t ∈ it.derives := by
  intro t ht
  refine (mem_derives h).mpr (Or.inl ?_)
  rw [hd, ownDerives, isStrInner_of hin]
  exact mem_newtypeDerives_str ht (fun he => hnN (he ▸ ht))

/-- **C19: the comparison/hash traits never appear where they cannot be derived**: a derive on an
    item is a base trait, user-requested, or comes from the table of its own kind — the simple-enum
    table only on enums all of whose variants lack data, the string table only on newtypes whose
    inner type *is* `String` (with `tables_derivable`: those are derivable there). -/
theorem derives_origin (tb : DeriveTables) (st : Settings) (σ : Space) (ent : Entry) (it : ItemS)
    (fns : List String) (h : itemOf tb st σ ent = some (it, fns)) (t : String) (ht : t ∈ it.derives) :
    t ∈ tb.base ∨ t ∈ st.extraDerives ∨ t ∈ ent.extraDerives ∨
    (t ∈ tb.simpleEnum ∧ ∃ n tag vs deny d bes, ent.details = .enum n tag vs deny d bes ∧ allSimple vs = true) ∨
    (t ∈ tb.strNewtype ∧ ∃ n inner c d ed im, ent.details = .newtype n inner c d ∧
        σ.get inner = some ⟨.string, ed, im⟩) := by
  rcases (mem_derives h).mp ht with ho | hs | he
  · unfold ownDerives at ho
    split at ho
    · exact Or.inl ho
    · rename_i n tag vs deny d bes hd
      rcases List.mem_append.mp ho with hb | hse
      · exact Or.inl hb
      · split at hse
        · rename_i hall; exact Or.inr (Or.inr (Or.inr (Or.inl ⟨hse, n, tag, vs, deny, d, bes, hd, hall⟩)))
        · cases hse
    · rename_i n inner c d hd
      rcases mem_newtypeDerives ho with hb | ⟨hstr, hm⟩
      · exact Or.inl hb
      · obtain ⟨ed, im, hg⟩ := isStrInner_spec hstr
        exact Or.inr (Or.inr (Or.inr (Or.inr ⟨hm, n, inner, c, d, ed, im, hd, hg⟩)))
    · cases ho
  · exact Or.inr (Or.inl hs)
  · exact Or.inr (Or.inr (Or.inl he))

/-! non-vacuity: a constrained string newtype -/
def exSpace : Space := { entries := [
  (1, ⟨.string, [], []⟩),
  (2, ⟨.newtype "N" 1 (.string (some 3) none none) none, [], []⟩),
  (3, ⟨.enum "E" .external [⟨"a", "A", .simple⟩] false none [.allSimpleVariants], [], []⟩)] }

example : ∃ it fns, itemOf deriveTables {} exSpace ⟨.newtype "N" 1 (.string (some 3) none none) none, [], []⟩ = some (it, fns)
    ∧ ImplK.deserialize ∈ it.impls ∧ "::serde::Deserialize" ∉ it.derives ∧ "Ord" ∈ it.derives := by
  refine ⟨_, _, rfl, ?_, ?_, ?_⟩ <;> decide +kernel

end TypifyModel.C19
