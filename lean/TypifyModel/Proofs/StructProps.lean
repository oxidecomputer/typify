import TypifyModel.Model.StructProps
/-! What the state selection of `structs.rs` (`struct_property`, `has_default`; model `StructProps.propState`, tied by the M0
    lattice of `./check C06`) guarantees, for every kind of member type and every default:

    * `optional_member_never_required` (C02: no optional member becomes mandatory) and `required_member_is_required`;
    * `bare_default_agrees_with_schema` (C06): when the schema gives a default and typify answers with serde's bare `default`,
      the member's type is one whose `Default::default()` IS the schema's value (`null`, `[]`, `{}`, `false`, `0`, `""`);
    * `wrapped_iff_nothing_to_fall_back_on` (C03: only members with schema or intrinsic defaults may be added): the member's type
      is wrapped in `Option` exactly when the member is not required, its schema has no default and its kind is not `option`,
      `vec`, `map` or `unit`. -/
namespace TypifyModel.StructProps
open TypifyModel

theorem required_member_is_required (k : Kind) (d : Option Json) : propState true k d = (.required, false) := by
  simp [propState]

theorem hasDefault_dflt {k : Kind} {d : Option Json} {v : Json} (h : hasDefault k d = .dflt v) : d = some v := by
  unfold hasDefault at h
  split at h <;> (try (simp at h; done))
  · split at h <;> simp at h; subst h; rfl
  · split at h <;> simp at h; subst h; rfl
  · simp at h; subst h; rfl

/-- **no optional member becomes mandatory** -/
theorem optional_member_never_required (k : Kind) (d : Option Json) :
    ∀ w, propState false k d ≠ (.required, w) := by
  intro w h
  unfold propState at h
  simp only [Bool.false_eq_true, if_false] at h
  split at h <;> simp at h
  rename_i other hne
  rcases h with ⟨h1, _⟩
  exact hne h1

/-- a `Default(value)` state carries the schema's default unchanged -/
theorem dflt_keeps_value (r : Bool) (k : Kind) (d : Option Json) (v : Json) (w : Bool)
    (h : propState r k d = (.dflt v, w)) : d = some v ∧ w = false ∧ r = false := by
  unfold propState at h
  cases r with
  | true => simp at h
  | false =>
    simp only [Bool.false_eq_true, if_false] at h
    split at h
    · simp at h
    · rename_i other hne
      simp only [Prod.mk.injEq] at h
      exact ⟨hasDefault_dflt h.1, h.2.symm, rfl⟩

theorem hasDefault_optional_some {k : Kind} {v : Json} (h : hasDefault k (some v) = .optional) :
    ∃ z, intrinsic k = some z ∧ sameValue v z = true := by
  unfold hasDefault at h
  split at h <;> (try (simp at h; done))
  all_goals (try (rename_i heq; simp at heq; done))
  · rename_i heq; simp only [Option.some.injEq] at heq; subst heq; exact ⟨.null, rfl, rfl⟩
  · rename_i heq; simp only [Option.some.injEq] at heq; subst heq; exact ⟨.null, rfl, rfl⟩
  · rename_i heq; simp only [Option.some.injEq] at heq; subst heq; exact ⟨.arr [], rfl, rfl⟩
  · rename_i heq; simp only [Option.some.injEq] at heq; subst heq; exact ⟨.obj [], rfl, rfl⟩
  · rename_i heq; simp only [Option.some.injEq] at heq; subst heq; exact ⟨.bool false, rfl, rfl⟩
  · rename_i w heq
    simp only [Option.some.injEq] at heq; subst heq
    split at h
    · rename_i hz
      refine ⟨.int 0, rfl, ?_⟩
      cases v <;> simp [isZero] at hz <;> simp [sameValue, hz]
    · simp at h
  · rename_i s heq
    simp only [Option.some.injEq] at heq; subst heq
    split at h
    · rename_i he
      refine ⟨.str "", rfl, ?_⟩
      have : s = "" := by simpa [String.isEmpty_iff] using he
      subst this; rfl
    · simp at h

/-- `has_default` never answers `Required` when a default is given -/
theorem hasDefault_some_ne_required (k : Kind) (v : Json) : hasDefault k (some v) ≠ .required := by
  intro hreq
  unfold hasDefault at hreq
  split at hreq <;> (try (simp at hreq; done))
  all_goals (try (rename_i heq; simp at heq; done))
  · split at hreq <;> simp at hreq
  · split at hreq <;> simp at hreq

/-- **the bare `default` is used only where it reproduces the schema's default** -/
theorem bare_default_agrees_with_schema (k : Kind) (v : Json) (w : Bool)
    (h : propState false k (some v) = (.optional, w)) :
    w = false ∧ ∃ z, intrinsic k = some z ∧ sameValue v z = true := by
  unfold propState at h
  simp only [Bool.false_eq_true, if_false] at h
  split at h
  · rename_i hreq
    exact absurd hreq (hasDefault_some_ne_required k v)
  · rename_i other hne
    simp only [Prod.mk.injEq] at h
    obtain ⟨h1, h2⟩ := h
    exact ⟨h2.symm, hasDefault_optional_some h1⟩

/-- **`Option` wrapping happens exactly when nothing else stands for the absent member** -/
theorem wrapped_iff_nothing_to_fall_back_on (k : Kind) (d : Option Json) :
    (propState false k d).2 = true ↔ (d = none ∧ k ≠ .option ∧ k ≠ .vec ∧ k ≠ .map ∧ k ≠ .unit) := by
  unfold propState
  simp only [Bool.false_eq_true, if_false]
  cases d with
  | none => cases k <;> simp [hasDefault]
  | some v =>
    constructor
    · intro h
      split at h
      · rename_i hreq
        exact absurd hreq (hasDefault_some_ne_required k v)
      · simp at h
    · intro h; simp at h

/-- the hypotheses are met: a vector member with `default: []`, an integer member with `default: 0.0` -/
example : propState false .vec (some (.arr [])) = (.optional, false) ∧ propState false .integer (some (.flt 0 1)) = (.optional, false) ∧
          propState false .string none = (.optional, true) ∧ propState false .map (some (.obj [("k", .int 1)])) = (.dflt (.obj [("k", .int 1)]), false) := by
  refine ⟨by rfl, by rfl, by rfl, by rfl⟩

end TypifyModel.StructProps
