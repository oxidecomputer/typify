import TypifyModel.Proofs.Lemmas.SettingsApplyLemmas
import TypifyModel.Model.SerdeSer
/-! The serde attributes `generate_serde_attr` (structs.rs) writes on a struct member, read as serde reads them, against what
    the run-time model of the generated code assumes.

    `Render.fieldSerde` is the model of `generate_serde_attr` (tied to the source by the M2 correspondence: the emitted attributes
    of every member of every case, parsed by `syn`). `Serde.skipped` is what the model of `Serialize` uses to leave a member out —
    it is defined on the IR (state and type of the member), not on the rendered attributes. The theorems here close that gap and
    state the law a `skip_serializing_if` has to obey for a round trip to be idempotent:

    * `skipped_eq_rendered`: a member is left out by the run-time model exactly when one of the rendered attributes is a
      `skip_serializing_if` whose predicate holds of the value (for every space, settings, member and value of the member's shape);
    * `skip_only_with_bare_default`: a rendered `skip_serializing_if` always comes with the bare `default` — never with
      `default = "<fn>"`, never on a required member;
    * `skipped_value_is_intrinsic_default`: the value that is left out is `None`, the empty vector or the empty map — what the bare
      `default` (`Default::default()`) puts back when the member is absent. So leaving the member out and reading it back is the
      identity; a member whose absence means a NON-empty schema default is never left out. -/
namespace TypifyModel.SerdeAttrs
open TypifyModel TypifyModel.Render TypifyModel.Serde TypifyModel.SettingsApply

def optionIsNone : String := "::std::option::Option::is_none"

/-- the predicate a `skip_serializing_if` path names, on a run-time value: `Option::is_none`, or an `is_empty` of a vector / map -/
def predHolds (path : String) (v : Val) : Bool :=
  if path == optionIsNone then (match v with | .none => true | _ => false)
  else (match v with | .seq [] => true | .map [] => true | _ => false)

/-- serde leaves the member out when some `skip_serializing_if` among its attributes holds of the value -/
def skipsByAttrs (args : List SerdeArg) (v : Val) : Bool :=
  args.any (fun a => match a with | .skipIf p => predHolds p v | _ => false)

/-- the value has the shape of the member's type where the attributes look at it: an `Option` member holds `None` / `Some`, a
    vector member a sequence, a map member a map (every value `de` produces has, `WireTy.prodTy`) -/
def shapeOk (σ : Space) (t : Id) (v : Val) : Bool :=
  match σ.get t with
  | some ⟨.option _, _, _⟩ => (match v with | .none => true | .some _ => true | _ => false)
  | some ⟨.vec _, _, _⟩ => (match v with | .seq _ => true | _ => false)
  | some ⟨.map _ _, _, _⟩ => (match v with | .map _ => true | _ => false)
  | _ => true

/-- the map-type path is a type path, never the one path that names `Option::is_none` (it is `st.mapType ++ "::is_empty"`) -/
def MapPathOk (st : Settings) : Prop := (st.mapType ++ "::is_empty") ≠ optionIsNone

theorem predHolds_isNone (v : Val) : predHolds optionIsNone v = (match v with | .none => true | _ => false) := by
  simp only [predHolds, beq_self_eq_true, if_true]

theorem predHolds_isEmpty {path : String} (h : path ≠ optionIsNone) (v : Val) :
    predHolds path v = (match v with | .seq [] => true | .map [] => true | _ => false) := by
  unfold predHolds; rw [if_neg (by simpa using h)]

theorem skipsByAttrs_fieldSerde (st : Settings) (σ : Space) (typeName : String) (p : Field) (v : Val) :
    skipsByAttrs (fieldSerde st σ typeName p).1 v =
      (match p.state with | .optional => (skipPath st σ p.ty).any (predHolds · v) | _ => false) := by
  rw [fieldSerde_attrs, skipsByAttrs, List.any_append, naming_any _ (fun _ => rfl) rfl, Bool.false_or]
  unfold stateArgs
  cases p.state with
  | required => rfl
  | dflt d => dsimp only; cases defaultFn σ typeName p.name p.ty d <;> rfl
  | optional => cases skipPath st σ p.ty <;> simp

/-- **the run-time model leaves a member out exactly when the rendered attributes say so** -/
theorem skipped_eq_rendered (st : Settings) (σ : Space) (typeName : String) (p : Field) (v : Val)
    (hm : MapPathOk st) (hs : shapeOk σ p.ty v = true) :
    skipped σ p v = skipsByAttrs (fieldSerde st σ typeName p).1 v := by
  rw [skipsByAttrs_fieldSerde]
  unfold skipped
  cases p.state with
  | required => rfl
  | dflt d => rfl
  | optional =>
    unfold shapeOk at hs
    unfold skipPath
    generalize σ.get p.ty = g at hs ⊢
    cases g with
    | none => rfl
    | some ent =>
      obtain ⟨det, _, _⟩ := ent
      cases det with
      | option t => exact (predHolds_isNone v).symm
      | vec t =>
        -- both sides ask for the empty sequence; the predicate also fires on an empty map, which is no vector
        simp only [Option.any_some, predHolds_isEmpty (path := "::std::vec::Vec::is_empty") (by decide)]
        cases v with
        | seq vs => cases vs <;> rfl
        | map kvs => cases hs
        | _ => rfl
      | map k w =>
        have hp : (if isStrAny σ k w then "::serde_json::Map::is_empty" else st.mapType ++ "::is_empty") ≠
            optionIsNone := by
          split
          · decide
          · exact hm
        simp only [Option.any_some, predHolds_isEmpty hp]
        cases v with
        | map kvs => cases kvs <;> rfl
        | seq vs => cases hs
        | _ => rfl
      | _ => rfl

/-- **a `skip_serializing_if` is only ever written next to the bare `default`**: the member is optional, and no
    `default = "<fn>"` stands beside it -/
theorem skip_only_with_bare_default (st : Settings) (σ : Space) (typeName : String) (p : Field) (q : String)
    (h : SerdeArg.skipIf q ∈ (fieldSerde st σ typeName p).1) :
    p.state = .optional ∧ SerdeArg.default ∈ (fieldSerde st σ typeName p).1 ∧
    ∀ f, SerdeArg.defaultFn f ∉ (fieldSerde st σ typeName p).1 := by
  have plain : ∀ a ∈ naming p.rename, (∀ q, a ≠ .skipIf q) ∧ ∀ f, a ≠ .defaultFn f := by
    intro a ha
    rcases naming_plain ha with ⟨s, rfl⟩ | rfl <;> exact ⟨nofun, nofun⟩
  rw [fieldSerde_attrs] at h ⊢
  have hs := (List.mem_append.mp h).resolve_left (fun hn => (plain _ hn).1 q rfl)
  unfold stateArgs at hs ⊢
  generalize p.state = s at hs ⊢
  cases s with
  | required => cases hs
  | dflt d =>
    dsimp only at hs
    generalize defaultFn σ typeName p.name p.ty d = r at hs
    cases r <;> simp at hs
  | optional =>
    refine ⟨rfl, List.mem_append_right _ List.mem_cons_self, fun f hf => ?_⟩
    rcases List.mem_append.mp hf with hn | hn
    · exact (plain _ hn).2 f rfl
    · simp at hn

/-- **what is left out is what the bare `default` puts back**: `None`, the empty vector, the empty map -/
theorem skipped_value_is_intrinsic_default (σ : Space) (p : Field) (v : Val) (h : skipped σ p v = true) :
    p.state = .optional ∧ (v = .none ∨ v = .seq [] ∨ v = .map []) := by
  unfold skipped at h
  generalize p.state = s at h ⊢
  cases s with
  | required => cases h
  | dflt d => cases h
  | optional =>
    refine ⟨rfl, ?_⟩
    generalize σ.get p.ty = g at h
    cases g with
    | none => cases h
    | some ent =>
      obtain ⟨det, _, _⟩ := ent
      cases det with
      | option t' => cases v <;> simp at h ⊢
      | vec t' =>
        cases v <;> simp at h ⊢
        rename_i vs; cases vs <;> simp at h ⊢
      | map k w =>
        cases v <;> simp at h ⊢
        rename_i kvs; cases kvs <;> simp at h ⊢
      | _ => cases h

end TypifyModel.SerdeAttrs
