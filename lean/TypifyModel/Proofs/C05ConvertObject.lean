import TypifyModel.Model.ConvertObject
/-! # `convert_object`: an object with declared or required members, or a closed one, is a struct — never a map
    (C05's "required properties / closed objects", C02's "no open object becomes closed"; checked under C10) -/
namespace TypifyModel.C05O
open TypifyModel.ConvertObject

/-- a schema that declares or requires a member is read by a struct -/
theorem members_make_struct (v : ObjV) (hp : v.present = true) (h : 0 < v.properties ∨ 0 < v.required) :
    convertObject v = .struct := by
  obtain ⟨pr, rq, ps, pp, same, ad, pn⟩ := v
  simp only at hp h; subst hp
  have h1 : (rq == 0 && ps == 0) = false := by
    rcases h with h | h
    · have : (ps == 0) = false := by simp; omega
      simp [this]
    · have : (rq == 0) = false := by simp; omega
      simp [this]
  simp [convertObject, canHandlePatternProperties, h1]

/-- `additionalProperties: false` without pattern properties is a (closed) struct, not a map that reads anything -/
theorem closed_without_patterns_is_struct (v : ObjV) (hp : v.present = true) (ha : v.additional = .false_)
    (hpp : v.patternProps = 0) : convertObject v = .struct := by
  obtain ⟨pr, rq, ps, pp, same, ad, pn⟩ := v
  simp only at hp ha hpp; subst hp; subst ha; subst hpp
  simp [convertObject, canHandlePatternProperties]

/-- a map whose values are read by `additionalProperties` is produced only when that is a schema, and its keys are
    constrained only by `propertyNames` -/
theorem map_values (v : ObjV) (k : KeyBy) (h : convertObject v = .map k .additional) :
    v.additional = .schema ∧ v.properties = 0 ∧ v.required = 0 ∧ v.patternProps = 0 ∧ (k = .propertyNames ↔ v.propertyNames = true) := by
  unfold convertObject at h
  split at h
  · cases h
  split at h
  next hc =>
    simp only [Bool.and_eq_true, beq_iff_eq, bne_iff_ne, ne_eq] at hc
    obtain ⟨rfl, hv⟩ := Out.map.inj h
    split at hv
    next hadd => exact ⟨hadd, hc.1.1.2, hc.1.1.1, hc.1.2, by cases v.propertyNames <;> simp⟩
    next => cases hv
  next => split at h <;> cases h

example : convertObject { properties := 2, additional := .schema } = .struct := by decide +kernel
example : convertObject { additional := .schema, propertyNames := true } = .map .propertyNames .additional := by decide +kernel
example : convertObject { patternProps := 1, additional := .false_ } = .map .patterns .patternSchema := by decide +kernel
example : convertObject { additional := .false_ } = .struct := by decide +kernel

end TypifyModel.C05O
