import TypifyModel.Proofs.Lemmas.CyclesInv
import TypifyModel.Proofs.Lemmas.CyclesMinimal
/-! # C07 — recursive schemas produce finitely sized types

Theorems about `Cycles.breakCycles` (the model of `TypeSpace::break_cycles`, tied to the code by the
correspondence slice `c07`), for ALL graphs, all root ranges, no bound on size:

* `break_acyclic` / `break_no_cycle` — after cutting, every by-value edge out of a node reachable from
  the roots (reachable in the result OR in the input graph) strictly decreases a rank; hence no
  by-value cycle: every containment cycle passes through a `Box`, `Vec`, `Set` or `Map`
  (`Node.heapIds`).
* `break_minimal` — no by-value cycle reachable from the roots ⇒ the graph is returned unchanged
  (no `Box` is introduced).
* `break_box_on_cycle` — a member is redirected to a `Box` only when it lies on a by-value cycle of the
  input (edge-wise form of minimality).
* `break_only_box` — the only changes are child ids `c` redirected to an entry `Box(c)` and fresh
  `Box` entries.
* `break_total` — on well-formed graphs the fuel `next_id + 1` suffices (the model never answers `none`).

Definitions used in the statements: `Cycles.E` (by-value edge), `Cycles.Reach`, `Cycles.Path`,
`Cycles.KeysBelow`, `Cycles.WF`, `Cycles.Acyclic`, `Cycles.OnlyBox` (in `Proofs/Lemmas/Cycles*.lean`).
The clause "values of the recursive types still round-trip" (`Box` is transparent for serde) is a
statement about the Serde model and is not part of this file. -/
namespace TypifyModel.C07
open TypifyModel.Cycles

theorem breakCycles_some {g r : G} {lo hi : Nat} (h : breakCycles g lo hi = some r) :
    ∃ s, breakCyclesSt (g.next + 1) g lo hi = some s ∧ s.g = r :=
  Option.map_eq_some_iff.mp h

/-- a rank strictly decreasing along the edges of a set closed under edges excludes cycles through
    that set -/
theorem no_cycle_of_rank {r : G} {S : Nat → Prop} {rank : Nat → Nat}
    (hstep : ∀ u v, S u → E r u v → S v ∧ rank v < rank u)
    {u w : Nat} (hu : S u) (p : Path r u w) : S w ∧ rank w < rank u := by
  induction p with
  | single e => exact hstep _ _ hu e
  | tail _ e ih => exact (hstep _ _ ih.1 e).imp id (Nat.lt_trans · ih.2)

/-- `S`: the finished nodes and the nodes without by-value children; `rank`: the finishing position -/
theorem break_ranked {g r : G} {lo hi : Nat} (hk : KeysBelow g)
    (h : breakCycles g lo hi = some r) :
    ∃ (S : Nat → Prop) (rank : Nat → Nat), (∀ u, Reach r lo hi u ∨ Reach g lo hi u → S u) ∧
      ∀ u v, S u → E r u v → S v ∧ rank v < rank u := by
  obtain ⟨s, hs, rfl⟩ := breakCycles_some h
  obtain ⟨inv, hr⟩ := breakCyclesSt_inv hk hs
  exact ⟨fun x => x ∈ s.fin ∨ Leaf s.g x, rank s.g s.fin, fun _ => inv.reach_fin hr,
    fun _ _ => inv.rank_step⟩

/-- **Acyclicity.** There is a rank that strictly decreases along every by-value edge of the result
    leaving a node reachable from the roots (in the result or in the input). -/
theorem break_acyclic {g r : G} {lo hi : Nat} (hk : KeysBelow g)
    (h : breakCycles g lo hi = some r) :
    ∃ rank : Nat → Nat, ∀ u v, (Reach r lo hi u ∨ Reach g lo hi u) → E r u v → rank v < rank u :=
  let ⟨_, rank, hS, hstep⟩ := break_ranked hk h
  ⟨rank, fun u v hu he => (hstep u v (hS u hu) he).2⟩

/-- **No containment cycle without a `Box`.** No non-empty by-value path of the result leads from a
    node reachable from the roots back to itself. -/
theorem break_no_cycle {g r : G} {lo hi : Nat} (hk : KeysBelow g)
    (h : breakCycles g lo hi = some r) :
    ∀ u, (Reach r lo hi u ∨ Reach g lo hi u) → ¬ Path r u u :=
  let ⟨_, _, hS, hstep⟩ := break_ranked hk h
  fun u hu p => Nat.lt_irrefl _ (no_cycle_of_rank hstep (hS u hu) p).2

/-- **Minimality.** If no by-value cycle is reachable from the roots, cutting returns the input
    graph itself: no `Box` entry is allocated and no member is redirected. -/
theorem break_minimal {g r : G} {lo hi : Nat} (hac : Acyclic g lo hi)
    (h : breakCycles g lo hi = some r) : r = g := by
  obtain ⟨s, hs, rfl⟩ := breakCycles_some h
  exact breakCyclesSt_min hac hs

/-- **Indirection only to cut a cycle.** Entry by entry: a by-value member `c` of entry `i` that was
    redirected now points to an entry `Box(c)`, and in the input graph `c` is `i` itself or leads back
    to `i` along by-value edges — the redirected edge lies on a containment cycle. -/
theorem break_box_on_cycle {g r : G} {lo hi : Nat} (hk : KeysBelow g)
    (h : breakCycles g lo hi = some r) :
    ∀ i n, g.get i = some n → ∃ f : Nat → Nat, r.get i = some (n.mapChildren f) ∧
      ∀ c ∈ n.childIds, f c = c ∨ (r.get (f c) = some (.box c) ∧ (c = i ∨ Path g c i)) := by
  obtain ⟨s, hs, rfl⟩ := breakCycles_some h
  exact (breakCyclesSt_inv hk hs).1.cut

/-- **Only boxes.** Every entry of the input is still there with the same kind, arity, order, heap
    ids; each by-value child id `c` is either kept or replaced by the id of an entry `Box(c)`; every
    new entry is a `Box` at a fresh id. -/
theorem break_only_box {g r : G} {lo hi : Nat} (hk : KeysBelow g)
    (h : breakCycles g lo hi = some r) : OnlyBox g r := by
  obtain ⟨s, hs, rfl⟩ := breakCycles_some h
  exact (breakCyclesSt_inv hk hs).1.closed.frame.onlyBox

/-- **Totality.** On a well-formed graph with roots below `next_id` the traversal never runs out of
    fuel (the recursion depth is bounded by the number of ids). -/
theorem break_total {g : G} {lo hi : Nat} (hw : WF g) (hhi : hi ≤ g.next) :
    ∃ r, breakCycles g lo hi = some r := by
  obtain ⟨s, hs⟩ := breakCyclesSt_total (lo := lo) hw hhi
  exact ⟨s.g, by simp [breakCycles, hs]⟩

/-- `get_child_ids` and heap positions are disjoint by kind: an entry with by-value children has no
    heap ids and vice versa (`Box`/`Vec`/`Set`/`Map` never contribute a by-value edge). -/
theorem byValue_or_heap (n : Node) : n.childIds = [] ∨ n.heapIds = [] := by
  cases n <;> simp [Node.childIds, Node.heapIds]

/-- rewriting keeps kind, arity and heap ids -/
theorem mapChildren_shape (f : Nat → Nat) (n : Node) :
    (n.mapChildren f).childIds = n.childIds.map f ∧ (n.mapChildren f).heapIds = n.heapIds := by
  refine ⟨Node.childIds_mapChildren f n, ?_⟩
  cases n <;> rfl

/-! ### non-vacuity: the hypotheses are satisfiable by non-trivial inputs -/

/-- `S0 { a: S0, b: Option<S0> }`, `S2 (S0)` -/
def gLoop : G where
  get := fun i => match i with
    | 0 => some (.struct [0, 1])
    | 1 => some (.option 0)
    | 2 => some (.newtype 0)
    | _ => none
  next := 3

theorem gLoop_wf : WF gLoop :=
  have keys : KeysBelow gLoop := fun i _ h => match i, h with
    | 0, _ | 1, _ | 2, _ => by decide
  ⟨keys, fun u v ⟨n, hn, hv⟩ => Option.isSome_iff_exists.mp
    ((by decide : ∀ u < 3, ∀ n, gLoop.get u = some n → ∀ c ∈ n.childIds, (gLoop.get c).isSome)
      u (keys u n hn) n hn v hv)⟩

/-- cutting `gLoop` from root 0: the self edge goes through a fresh `Box(0)` (id 3), the edge
    `Option<S0> → S0` met while `S0` is active goes through the same box -/
example : (breakCycles gLoop 0 1).map (fun r => (r.get 0, r.get 1, r.get 2, r.get 3, r.next))
    = some (some (.struct [3, 1]), some (.option 3), some (.newtype 0), some (.box 0), 4) := by
  decide

example : ∃ r, breakCycles gLoop 0 3 = some r ∧ OnlyBox gLoop r ∧
    ∀ u, Reach gLoop 0 3 u → ¬ Path r u u := by
  obtain ⟨r, hr⟩ := break_total (lo := 0) (hi := 3) gLoop_wf (Nat.le_refl _)
  exact ⟨r, hr, break_only_box gLoop_wf.keys hr,
    fun u hu => break_no_cycle gLoop_wf.keys hr u (Or.inr hu)⟩

/-- a rank decreasing along all by-value edges is a sufficient reason for `Acyclic` -/
theorem acyclic_of_rank {g : G} {lo hi : Nat} (rank : Nat → Nat)
    (hlt : ∀ u v, E g u v → rank v < rank u) : Acyclic g lo hi := fun _ _ p =>
  Nat.lt_irrefl _ (no_cycle_of_rank (S := fun _ => True) (fun u v _ e => ⟨trivial, hlt u v e⟩)
    trivial p).2

/-- `S0 { a: Option<S1>, b: S1 }`, `S1 { v: Vec<S0> }`: recursion only through a `Vec` -/
def gDag : G where
  get := fun i => match i with
    | 0 => some (.struct [2, 1])
    | 1 => some (.struct [3])
    | 2 => some (.option 1)
    | 3 => some (.vec 0)
    | _ => none
  next := 4

theorem gDag_acyclic : Acyclic gDag 0 2 :=
  let rank : Nat → Nat := fun i => match i with | 0 => 3 | 2 => 2 | 1 => 1 | _ => 0
  have keys : KeysBelow gDag := fun i _ h => match i, h with
    | 0, _ | 1, _ | 2, _ | 3, _ => by decide
  acyclic_of_rank rank fun u v ⟨n, hn, hv⟩ =>
    (by decide : ∀ u < 4, ∀ n, gDag.get u = some n → ∀ v ∈ n.childIds, rank v < rank u)
      u (keys u n hn) n hn v hv

example : ∀ r, breakCycles gDag 0 2 = some r → r = gDag :=
  fun _ h => break_minimal gDag_acyclic h

example : (breakCycles gDag 0 2).map (fun r => (r.get 0, r.get 1, r.next))
    = some (some (.struct [2, 1]), some (.struct [3]), 4) := by
  decide

end TypifyModel.C07
