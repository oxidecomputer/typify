import TypifyModel.Proofs.C11Natives
/-! Refutation of the full C11 statement over the regenerated table: the `date-time` arm advertises `Display` for
    `chrono::DateTime<Utc>`, which prints `2024-02-29 13:45:10 UTC` where serialization writes `2024-02-29T13:45:10Z`
    (finding C11-datetime-display; replayed on compiled code by `./check C11`). -/
namespace TypifyModel.C11N
open TypifyModel TypifyModel.Generated

theorem native_formats_coherent_full_false : ¬ native_formats_coherent_full := by
  intro h
  have := h ⟨"date-time", "::chrono::DateTime<::chrono::offset::Utc>", ["Display", "FromStr"], ["chrono"]⟩
    (by decide +kernel)
  revert this; decide +kernel

end TypifyModel.C11N
