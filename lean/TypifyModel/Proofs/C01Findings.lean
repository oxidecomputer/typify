import TypifyModel.Proofs.C01
/-! # C01 — kernel-checked refutations on the IRs of listed findings

The first half of C01 over the IR would read "every IR that ingestion returns is well-formed". It is
false for the typify source under /repo: the spaces below are the (abridged) IR dumps typify really produces for the
witnesses of `KNOWN_FINDINGS.json` (replayed against the real code on every run by `tools/props/c01.py`).
For each one `WF` is false, the failing conjunct is the finding's predicate, and — the converse direction
of `wf_compiles` on these inputs — the emitted module does NOT satisfy `Compiles`.
This file is allowed to stop compiling when a defect is repaired and the dump changes. -/
namespace TypifyModel.C01Findings
open TypifyModel TypifyModel.Render TypifyModel.Wf TypifyModel.C01

def tb : DeriveTables := Generated.deriveTables

/-- C01-nullable-def-name: definition `Foo: oneOf[object, null]` -/
def nullableDef : Space := { nextId := 4, entries := [
  (0, ⟨.integer "i64", [], []⟩),
  (1, ⟨.struct "Foo" [⟨"a", .none, .optional, 2⟩] false none, [], []⟩),
  (2, ⟨.option 0, [], []⟩),
  (3, ⟨.option 1, [], []⟩),
  (4, ⟨.newtype "Foo" 3 .none none, [], []⟩)] }

theorem nullableDef_conjuncts :
    ((conjuncts exEnv tb {} nullableDef).filter (fun c => !c.2)).map (·.1) = ["items_unique", "impls_coherent"] := by
  decide +kernel

theorem nullableDef_not_compiles : ¬ Compiles exEnv (modOf tb {} nullableDef) := by
  intro h
  have hn := h.uniqueItems.1
  rw [modOf_names] at hn
  exact absurd hn (by decide +kernel)

/-- C01-arity-limits: a 13-item tuple schema -/
def tuple13 : Space := { nextId := 3, entries := [
  (0, ⟨.integer "i64", [], []⟩),
  (1, ⟨.tuple [0, 0, 0, 0, 0, 0, 0, 0, 0, 0, 0, 0, 0], [], []⟩),
  (2, ⟨.newtype "T" 1 .none none, [], []⟩)] }

theorem tuple13_conjuncts :
    ((conjuncts exEnv tb {} tuple13).filter (fun c => !c.2)).map (·.1) = ["derivable"] := by decide +kernel

theorem tuple13_not_compiles : ¬ Compiles exEnv (modOf tb {} tuple13) := by
  intro h
  have hall : ((modOf tb {} tuple13).items.all fun m =>
      m.allTys.all fun T => T.shapeOk (modOf tb {} tuple13).hashable) = true := by
    simp only [List.all_eq_true]
    exact fun m hm T hT => (h.derivable m hm).2.1 T hT
  exact absurd hall (by decide +kernel)

/-- C01-set-vec-from: `oneOf[array of unique strings, array of strings]` -/
def setVec : Space := { nextId := 4, entries := [
  (0, ⟨.string, [], []⟩),
  (1, ⟨.set 0, [], []⟩),
  (2, ⟨.vec 0, [], []⟩),
  (3, ⟨.enum "E" .untagged [⟨"Variant0", "Variant0", .item 1⟩, ⟨"Variant1", "Variant1", .item 2⟩] false none [], [], []⟩)] }

/-- rustc's type equality on the two spellings involved -/
def vecEnv : Env := { sameTy := fun a b => a == b ||
    (a == "Vec<::std::string::String>" && b == "::std::vec::Vec<::std::string::String>") ||
    (b == "Vec<::std::string::String>" && a == "::std::vec::Vec<::std::string::String>") }

theorem setVec_conjuncts :
    ((conjuncts vecEnv tb {} setVec).filter (fun c => !c.2)).map (·.1) = ["impls_coherent"] := by decide +kernel

theorem setVec_not_compiles : ¬ Compiles vecEnv (modOf tb {} setVec) := by
  intro h
  have hp := h.implsCoherent.1
  rw [modOf_summary] at hp
  have hb : pairwiseB (fun a b => !overlap vecEnv a b) (allHdrs (render tb {} setVec)) = true := by
    rw [pairwiseB_iff]
    refine hp.imp ?_
    intro a b hab
    simp [hab]
  exact absurd hb (by decide +kernel)

/-- C01-alias-cycle-deref: definitions `T0: allOf[$ref T3]`, `T3: allOf[$ref T0]` (real dump: the cycle is cut with a
    `Box`, so the sizes are finite, but `T0 -> T3 -> Box<T0> -> T0 -> ..` is an endless auto-deref chain) -/
def aliasCycle : Space := { nextId := 3, entries := [
  (0, ⟨.newtype "T0" 1 .none none, [], []⟩),
  (1, ⟨.newtype "T3" 2 .none none, [], []⟩),
  (2, ⟨.box 0, [], []⟩)] }

theorem aliasCycle_conjuncts :
    ((conjuncts exEnv tb {} aliasCycle).filter (fun c => !c.2)).map (·.1) = ["deref_finite"] := by decide +kernel

theorem aliasCycle_not_compiles : ¬ Compiles exEnv (modOf tb {} aliasCycle) := by
  intro h
  have h01 : (modOf tb {} aliasCycle).derefNext 0 = some 1 := by decide +kernel
  have h10 : (modOf tb {} aliasCycle).derefNext 1 = some 0 := by decide +kernel
  have never : ∀ n, derefEnds (modOf tb {} aliasCycle) n 0 = false ∧ derefEnds (modOf tb {} aliasCycle) n 1 = false := by
    intro n
    induction n with
    | zero => exact ⟨rfl, rfl⟩
    | succ k ih =>
      constructor
      · rw [derefEnds, h01]; exact ih.2
      · rw [derefEnds, h10]; exact ih.1
  have hm : ∃ m ∈ (modOf tb {} aliasCycle).items, m.id = 0 := by decide +kernel
  obtain ⟨m, hmem, hid⟩ := hm
  obtain ⟨n, hn⟩ := h.derefFinite m hmem
  rw [hid, (never n).1] at hn
  exact absurd hn (by decide)

end TypifyModel.C01Findings
