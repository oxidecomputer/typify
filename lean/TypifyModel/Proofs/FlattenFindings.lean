import TypifyModel.Model.SerdeSer
import TypifyModel.Model.RoundTrip
import TypifyModel.Proofs.Lemmas.ConvLemmas
import TypifyModel.Proofs.Lemmas.WireTy
/-! What `#[serde(flatten)]` does to three properties on the current tree (model: `Serde.deFlat`, `Serde.foldFields`,
    the flattened arm of `SerdeSer.seFieldsR`; tied to the compiled code by M3 like the rest of `Serde`).

    * `union_never_rejects` (C05, finding C05-anyof-flatten-accepts-any): the struct typify builds for a non-exclusive
      `anyOf` of objects — every member `#[serde(flatten)] Option<SubtypeN>` — rejects NO JSON object, for every space,
      every member list of that shape and every object: each failed subtype becomes `None`.
    * `deny_map_rejects_unnamed` (C02, finding C02-untagged-deny-flatten-map): under `deny_unknown_fields` a struct
      (variant) whose only flattened members are maps accepts no object with a member it does not name, although the
      flattened map is there to hold exactly those members: the map reads the buffered entries without taking them.
    * `shared_member_lost` (C03, finding C03-anyof-flatten-shared-member): the concrete round trip in which a failed
      first subtype has taken the member a later subtype needed. -/
namespace TypifyModel.Flatten
open TypifyModel TypifyModel.Serde TypifyModel.Conv

/-- members of the struct `flattened_union_struct` builds: all flattened, all `Option<..>` -/
def unionShape (σ : Space) (props : List Field) : Bool :=
  props.all (fun p => p.rename == .flatten &&
    (match σ.get p.ty with
     | some ⟨.option _, _, _⟩ => true
     | _ => false))

/-- a flattened `Option<T>` never rejects: a `T` that fails gives `None` -/
theorem flat_option_NR (x : Ext) (σ : Space) {t t' : Id} {ed : List String} {im : List Impl}
    (hget : σ.get t = some ⟨.option t', ed, im⟩) (f : Nat) (c : List (String × Json)) :
    NR (deFlat x σ f t c).1 := by
  cases f with
  | zero => simp [deFlat, NR]
  | succ f =>
    rw [WireEq.deFlat_option_eq x hget]
    cases WireEq.isOption σ t' with
    | true => simp [NR]
    | false =>
      simp only [Bool.false_eq_true, if_false]
      cases hrec : deFlat x σ f t' c with
      | mk r c1 =>
        cases r with
        | ok w => simp [NR]
        | error e => cases e <;> simp [NR]

/-- **C05-anyof-flatten-accepts-any**: the flattened union struct (not closed) rejects no JSON object at all — whatever the
    subtypes require, whatever types their members have -/
theorem union_never_rejects (x : Ext) (σ : Space) (props : List Field) (hne : props ≠ [])
    (hu : unionShape σ props = true) (f : Nat) (kvs : List (String × Json)) :
    NR (deStruct x σ f props false (.obj kvs)) := by
  cases f with
  | zero => simp [deStruct, NR]
  | succ f =>
    have hall := fun p hp => Bool.and_eq_true_iff.mp (List.all_eq_true.mp hu p hp)
    have hfl : hasFlatten props = true := by
      obtain ⟨p, hp⟩ := List.exists_mem_of_ne_nil props hne
      exact List.any_eq_true.mpr ⟨p, hp, (hall p hp).1⟩
    simp only [deStruct, hfl, if_true]
    split
    next heq =>
      -- no member is read by name, and a flattened `Option` turns a failure into `None`
      refine NR_err (foldFields_NR_inv (fun _ => True) props _ trivial ?_ ?_) (congrArg Prod.fst heq)
      · exact fun p hp hnf => absurd (beq_iff_eq.mp (hall p hp).1) hnf
      · intro p hp _ c' _
        have := (hall p hp).2
        split at this
        · exact ⟨flat_option_NR x σ ‹_› f c', trivial⟩
        · cases this
    next => exact NR_ok

/-! ### the witness of C05-anyof-flatten-accepts-any / C03-anyof-flatten-shared-member

    `Event = anyOf[{kind: "click", x?: integer}, {kind?: string, note?: string}]` as typify renders it. -/

def evSpace : Space := { entries := [
  (0, { details := .string }),
  (1, { details := .option 0 }),
  (2, { details := .integer "i64" }),
  (3, { details := .option 2 }),
  (4, { details := .enum "EventSubtype0Kind" .external [⟨"click", "Click", .simple⟩] false none [] }),
  (5, { details := .struct "EventSubtype0" [⟨"kind", .none, .required, 4⟩, ⟨"x", .none, .optional, 3⟩] false none }),
  (6, { details := .option 5 }),
  (7, { details := .struct "EventSubtype1" [⟨"kind", .none, .optional, 1⟩, ⟨"note", .none, .optional, 1⟩] false none }),
  (8, { details := .option 7 }),
  (9, { details := .struct "Event" [⟨"subtype_0", .flatten, .optional, 6⟩, ⟨"subtype_1", .flatten, .optional, 8⟩] false none })] }

def evX : Ext := ⟨fun _ _ => true⟩

/-- an object that matches NEITHER branch (`kind` is not "click"; `note` is not a string) is accepted, both subtypes `None` -/
theorem union_accepts_invalid :
    de evX evSpace 8 9 (.obj [("kind", .str "pga"), ("note", .int 0)]) =
      .ok (.struct [("subtype_0", .none), ("subtype_1", .none)]) := by
  rfl

/-- **C03-anyof-flatten-shared-member**: `{"kind":"pga","note":"vup"}` is valid under the second branch; the first subtype
    declares `kind`, takes it from the buffer and fails on it; the second subtype never sees it -/
theorem shared_member_lost :
    (match de evX evSpace 8 9 (.obj [("kind", .str "pga"), ("note", .str "vup")]) with
     | .ok v => se evSpace 8 9 v
     | .error e => .error e) = .ok (.obj [("note", .str "vup")]) := by
  rfl

/-- every flattened member is a map -/
def flatMaps (σ : Space) (props : List Field) : Bool :=
  props.all (fun p => p.rename != .flatten ||
    (match σ.get p.ty with
     | some ⟨.map _ _, _, _⟩ => true
     | _ => false))

/-- a flattened map leaves the buffer as it found it -/
theorem flat_map_keeps (x : Ext) (σ : Space) {t k v : Id} {ed : List String} {im : List Impl}
    (hget : σ.get t = some ⟨.map k v, ed, im⟩) (f : Nat) (c : List (String × Json)) :
    (deFlat x σ f t c).2 = c := by
  cases f with
  | zero => simp [deFlat]
  | succ f => simp [deFlat, hget]

theorem foldFields_keeps {named : Field → Except E (String × Val)}
    {flat : Field → List (String × Json) → Except E Val × List (String × Json)} :
    ∀ (ps : List Field) (c : List (String × Json)),
      (∀ p ∈ ps, p.rename = .flatten → ∀ c', (flat p c').2 = c') →
      ∀ fs rest, foldFields named flat ps c = (.ok fs, rest) → rest = c := by
  intro ps
  induction ps with
  | nil => intro c _ fs rest h; cases h; rfl
  | cons p ps ih =>
    intro c hk fs rest h
    have ihr := fun c' => ih c' (fun q hq => hk q (List.mem_cons_of_mem _ hq))
    simp only [foldFields] at h
    split at h
    · have h1 := hk p List.mem_cons_self (beq_iff_eq.mp ‹_›) c
      split at h
      · cases h
      · rename_i heq
        rw [heq] at h1
        cases h1
        split at h
        · cases h
        · rename_i heq2
          cases h
          exact ihr _ _ _ heq2
    · split at h
      · cases h
      · split at h
        · cases h
        · rename_i heq2
          cases h
          exact ihr _ _ _ heq2

/-- **C02-untagged-deny-flatten-map**: closed (`deny_unknown_fields`) and holding only flattened maps, a struct accepts no
    object that has a member outside the named ones — the members the flattened map exists for -/
theorem deny_map_rejects_unnamed (x : Ext) (σ : Space) (props : List Field) (hfl : hasFlatten props = true)
    (hm : flatMaps σ props = true) (f : Nat) (kvs : List (String × Json)) (kv : String × Json) (hkv : kv ∈ kvs)
    (hun : props.any (fun p => p.rename != .flatten && p.wire == kv.1) = false) (v : Val) :
    deStruct x σ f props true (.obj kvs) ≠ .ok v := by
  cases f with
  | zero => simp [deStruct]
  | succ f =>
    simp only [deStruct, hfl, if_true]
    intro h
    split at h
    · simp at h
    · rename_i fs rest hfold
      have hrest := foldFields_keeps props (bufferOf props kvs) (by
        intro p hp hpf c'
        have := (List.all_eq_true.mp hm) p hp
        simp only [hpf, bne_self_eq_false, Bool.false_or] at this
        split at this
        · exact flat_map_keeps x σ ‹_› f c'
        · cases this) fs rest hfold
      have hmem : kv ∈ bufferOf props kvs := List.mem_filter.mpr ⟨hkv, by rw [hun]; rfl⟩
      subst hrest
      simp [List.isEmpty_eq_false_iff_exists_mem.mpr ⟨kv, hmem⟩] at h

/-- the witness: `Variant1 { sides: i64, #[serde(flatten)] extra: HashMap<String, i64> }` under the container's
    `deny_unknown_fields` does not read `{"sides":4,"k1":7}` … -/
def shSpace : Space := { entries := [
  (0, { details := .string }), (1, { details := .integer "i64" }), (2, { details := .map 0 1 })] }
def shProps : List Field := [⟨"sides", .none, .required, 1⟩, ⟨"extra", .flatten, .required, 2⟩]

example : deStruct evX shSpace 5 shProps true (.obj [("sides", .int 4), ("k1", .int 7)]) = .error .reject := by rfl
/-- … while the same variant without `deny_unknown_fields` does (non-vacuity of the hypotheses above) -/
example : deStruct evX shSpace 5 shProps false (.obj [("sides", .int 4), ("k1", .int 7)]) =
    .ok (.struct [("sides", .int 4), ("extra", .map [("k1", .int 7)])]) := by rfl
example : hasFlatten shProps = true ∧ flatMaps shSpace shProps = true := by decide
example : unionShape evSpace [⟨"subtype_0", .flatten, .optional, 6⟩, ⟨"subtype_1", .flatten, .optional, 8⟩] = true := by decide

/-! ### non-vacuity of the positive theorems (C02 `conv_accepts`, C05 `enc_sound`, C03 `de_se_de` / `rt_contains`) on a struct
    with typed additional properties -/

def apSpace : Space := { entries := [
  (0, { details := .string }), (1, { details := .integer "i64" }), (2, { details := .map 0 1 }),
  (3, { details := .struct "Sh" [⟨"sides", .none, .required, 1⟩, ⟨"extra", .flatten, .required, 2⟩] false none })] }

/-- the side conditions of the round-trip theorems hold for it … -/
example : RoundTrip.closedOkB apSpace [0, 1, 2, 3] = true := by decide
example : RoundTrip.fieldsOkFlatB apSpace [⟨"sides", .none, .required, 1⟩, ⟨"extra", .flatten, .required, 2⟩] = true := by decide
/-- … and so do those of `conv_accepts` / `enc_sound` for `{sides: integer, additionalProperties: integer}` -/
example : Conv.structFlatB (fun _ t => t == 1) apSpace [("sides", .integer none none)] ["sides"] (.schema (.integer none none))
    [⟨"sides", .none, .required, 1⟩, ⟨"extra", .flatten, .required, 2⟩] false = true := by decide
/-- the round trip itself, evaluated: the additional members come back, key-sorted -/
example :
    (match de evX apSpace 6 3 (.obj [("zz", .int 2), ("sides", .int 4), ("k1", .int 7)]) with
     | .ok v => se apSpace 6 3 v
     | .error e => .error e) = .ok (.obj [("sides", .int 4), ("k1", .int 7), ("zz", .int 2)]) := by rfl

end TypifyModel.Flatten
