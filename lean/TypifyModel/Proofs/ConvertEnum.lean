import TypifyModel.Model.ConvertEnum
/-! What the `enum` keyword becomes (`ConvertEnum.*`, tied to convert.rs by the M0 lattice of `./check C05`): the variants of a
    string enum are EXACTLY the enumerated strings that meet the string constraints — in order, none dropped, none added, lengths
    counted in characters —, `null` among the values means `Option`, and a typed enumeration admits exactly the listed values. -/
namespace TypifyModel.ConvertEnum
open TypifyModel TypifyModel.Excl

def strOf : Json → Option String
  | .str s => some s
  | _ => none

theorem keptStrings_spec (v : StrV) : ∀ (vals : List Json) (ks : List String),
    keptStrings v vals = some ks → ks = (vals.filterMap strOf).filter v.valid := by
  intro vals
  induction vals with
  | nil => intro ks h; simp [keptStrings] at h; subst h; rfl
  | cons a r ih =>
    intro ks h
    cases a with
    | null =>
      simp only [keptStrings] at h
      have := ih ks h
      rw [this]
      simp [List.filterMap_cons, strOf]
    | str s =>
      simp only [keptStrings] at h
      cases hr : keptStrings v r with
      | none => rw [hr] at h; simp at h
      | some l =>
        rw [hr] at h
        simp only [Option.map_some, Option.some.injEq] at h
        have := ih l hr
        subst h
        by_cases hv : v.valid s = true
        · simp [strOf, hv, this]
        · have hv' : v.valid s = false := by simpa using hv
          simp [strOf, hv', this]
    | bool b => simp [keptStrings] at h
    | int n => simp [keptStrings] at h
    | flt m e => simp [keptStrings] at h
    | arr xs => simp [keptStrings] at h
    | obj kvs => simp [keptStrings] at h

theorem mem_filterMap_strOf {vals : List Json} {s : String} : s ∈ vals.filterMap strOf ↔ Json.str s ∈ vals := by
  rw [List.mem_filterMap]
  constructor
  · rintro ⟨a, ha, h⟩
    cases a <;> simp [strOf] at h
    subst h; exact ha
  · intro h; exact ⟨.str s, h, rfl⟩

/-- the string enum inside the result, if there is one -/
def variantsOf : Out → Option (List String)
  | .strEnum vs => some vs
  | .option (.strEnum vs) => some vs
  | _ => none

/-- **the variants of a string enum are exactly the enumerated strings that meet the constraints**: no enumerated value loses
    its variant, no variant is invented (for every list of values and every constraint set) -/
theorem enum_string_variants_exact (v : StrV) (vals : List Json) (vs : List String)
    (h : variantsOf (enumString v vals) = some vs) :
    vs = (vals.filterMap strOf).filter v.valid ∧ ∀ s, s ∈ vs ↔ (Json.str s ∈ vals ∧ v.valid s = true) := by
  unfold enumString at h
  cases hk : keptStrings v vals with
  | none => rw [hk] at h; simp [variantsOf] at h
  | some ks =>
    rw [hk] at h
    have hspec := keptStrings_spec v vals ks hk
    have hvs : vs = ks := by
      cases ks with
      | nil => simp only at h; split at h <;> simp [variantsOf] at h
      | cons a r =>
        simp only at h
        split at h
        · simp [variantsOf] at h
        · split at h <;> simp [variantsOf] at h <;> exact h.symm
    subst hvs
    refine ⟨hspec, ?_⟩
    intro s
    rw [hspec, List.mem_filter, mem_filterMap_strOf]

/-- lengths are counted in characters: one scalar value is one, whatever its UTF-8 length -/
theorem length_bound_counts_characters (n : Nat) (s : String) :
    ({ maxLen := some n } : StrV).valid s = decide (s.length ≤ n) := by
  simp [StrV.valid]

example : ({ maxLen := some 1 } : StrV).valid "é" = true ∧ ({ maxLen := some 1 } : StrV).valid "日本" = false := by
  decide +kernel

/-- a string enum is wrapped in `Option` exactly when `null` is among the enumerated values -/
theorem enum_string_option_iff_null (v : StrV) (vals : List Json) (vs : List String) :
    (enumString v vals = .option (.strEnum vs) → vals.any isNull = true) ∧
    (enumString v vals = .strEnum vs → vals.any isNull = false) := by
  unfold enumString
  cases keptStrings v vals with
  | none => simp
  | some ks =>
    cases ks with
    | nil => simp only; constructor <;> (intro h; split at h <;> simp at h)
    | cons a r =>
      simp only
      constructor
      · intro h
        split at h
        · simp at h
        · split at h
          · assumption
          · simp at h
      · intro h
        split at h
        · simp at h
        · split at h
          · simp at h
          · rename_i hn; simpa using hn

/-- **a typed enumeration admits exactly the listed values** -/
theorem typed_enum_values_exact (t t' : JT) (c : Json → Bool) (vals vs : List Json)
    (h : typedEnum t c vals = .allow t' vs) : t' = t ∧ vs = vals ∧ vals.all c = true := by
  unfold typedEnum at h
  split at h
  · rename_i hc
    simp only [Out.allow.injEq] at h
    exact ⟨h.1.symm, h.2.symm, hc⟩
  · simp at h

/-- an enumeration of strings without a `type` is the string enum of those values -/
theorem unknown_enum_of_strings (c : JT → Json → Bool) (vals : List Json) (hne : vals ≠ [])
    (hs : ∀ x ∈ vals, ∃ s, x = Json.str s) : unknownEnum c vals = enumString {} vals := by
  have hnn : vals.filter (fun v => !isNull v) = vals := by
    apply List.filter_eq_self.mpr
    intro a ha; obtain ⟨s, rfl⟩ := hs a ha; rfl
  have hany : vals.any isNull = false := by
    rw [List.any_eq_false]; intro a ha; obtain ⟨s, rfl⟩ := hs a ha; simp [isNull]
  have hty : valueTypes vals = [JT.string] := by
    unfold valueTypes
    rw [hnn]
    cases vals with
    | nil => exact absurd rfl hne
    | cons a r =>
      obtain ⟨s, rfl⟩ := hs _ List.mem_cons_self
      have hr : ∀ x ∈ r.map JT.ofValue, x = JT.string := by
        intro x hx
        rw [List.mem_map] at hx
        obtain ⟨y, hy, rfl⟩ := hx
        obtain ⟨s', rfl⟩ := hs y (List.mem_cons_of_mem _ hy)
        rfl
      simp only [List.map_cons, JT.ofValue]
      rw [List.eraseDups_cons]
      have : List.filter (fun b => !b == JT.string) (r.map JT.ofValue) = [] := by
        apply List.filter_eq_nil_iff.mpr
        intro x hx; simp [hr x hx]
      rw [this]; rfl
  unfold unknownEnum
  have hemp : vals.isEmpty = false := by cases vals <;> simp_all
  simp only [hemp, hnn, hany, hty]
  simp

end TypifyModel.ConvertEnum
