import TypifyModel.Proofs.Lemmas.ConvAccepts
/-! # C02 — every schema-valid JSON instance deserializes into the generated type

`conv_accepts`: ∀ IR σ, ∀ documents, ∀ schemas S, ∀ types τ, ∀ JSON instances v: if every
definition is read faithfully by its registered type (`AllConv`), τ is a faithful reading of S
(`convB`, an executable relation with one arm per construct) and v is valid under S, then the
model of the generated `Deserialize` does **not reject** v — for every fuel. (`de` answers
`fuel`/`unsupported` only as non-verdicts; with the fuel the driver uses it answers `ok`.)
Recursive `$ref`s need no guardedness condition: the induction is on the validity fuel.

The remaining link — that typify's `convert_schema` establishes `convB` — is discharged per
schema by running `convB` on the real (schema, IR dump) pair (translation validation in
`./check C02`); the ∀-instances guarantee for that schema is then exactly this theorem. -/
namespace TypifyModel.C02
open TypifyModel TypifyModel.Serde TypifyModel.Validate TypifyModel.Conv

variable (x : Serde.Ext) (vx : Validate.Ext) (σ : Space) (d : Doc)

/-- the nullable idioms: either the instance is valid under the inner schema, or under `null` -/
theorem nullable_accepts {rec : Schema → Id → Bool} {m : Nat} (hrec : Hrec x vx σ d rec (m + 1))
    {s' : Schema} {t t' : Id} {ed : List String} {im : List Impl} {v : Json}
    (hget : σ.get t = some ⟨.option t', ed, im⟩) (hb : rec s' t' = true)
    (hv : valid vx d m s' v = some true ∨ valid vx d m .null v = some true) (f : Nat) :
    NR (de x σ (f + 1) t v) := by
  rcases hv with hv | hv
  · exact de_option_NR hget (hrec m (Nat.lt_succ_self m) s' t' v hb hv f)
  · cases valid_null hv
    simp only [de, hget]
    exact NR_ok

theorem alt_pair {a b : Schema} {P : Schema → Prop}
    (h : ∃ (n : Nat) (s : Schema), [a, b][n]? = some s ∧ P s) : P a ∨ P b := by
  obtain ⟨n, s, hn, hs⟩ := h
  match n, hn with
  | 0, hn => cases hn; exact .inl hs
  | 1, hn => cases hn; exact .inr hs
  | _ + 2, hn => cases hn

theorem convD_accepts (hreg : ∀ p s, x.regex p s = vx.regex p s)
    {rec : Schema → Id → Bool} {m : Nat} (hrec : Hrec x vx σ d rec (m + 1))
    {s : Schema} {t : Id} {det : Details} {ed : List String} {im : List Impl} {v : Json}
    (hget : σ.get t = some ⟨det, ed, im⟩)
    (hb : convD rec σ s det = true) (hv : valid vx d (m + 1) s v = some true) :
    ∀ fd, NR (de x σ fd t v) := by
  intro fd
  cases fd with
  | zero => exact NR_de_zero
  | succ f =>
    have hm := Nat.lt_succ_self m
    have hitems : ∀ {items t' xs}, rec items t' = true → (∀ j ∈ xs, valid vx d m items j = some true) →
        NR (mapM' (de x σ f t') xs) :=
      fun hb hmem => mapM'_NR fun j hj => hrec m hm _ _ j hb (hmem j hj) f
    unfold convD at hb
    split at hb
    · -- any / jsonValue
      simp only [de, hget]
      exact NR_ok
    · -- null / unit
      cases valid_null hv
      simp only [de, hget]
      exact NR_ok
    · -- boolean
      cases v with
      | bool b => simp only [de, hget]; exact NR_ok
      | _ => cases hv
    · -- number / float
      cases v with
      | int n => simp only [de, hget]; exact NR_ok
      | flt n e => simp only [de, hget]; exact NR_ok
      | _ => cases hv
    · -- integer
      split at hb
      · rename_i ty hty
        simp only [Bool.and_eq_true, decide_eq_true_eq] at hb
        cases v with
        | int k =>
          simp only [valid, Option.some.injEq, Bool.and_eq_true, decide_eq_true_eq] at hv
          have : ty.lo ≤ k ∧ k ≤ ty.hi := by omega
          simp [de, hget, hty, this, NR]
        | _ => cases hv
      · cases hb
    · -- plain string
      obtain ⟨w, rfl⟩ := valid_string hv
      simp only [de, hget]
      exact NR_ok
    · -- constrained string newtype
      obtain ⟨hinner, himp⟩ := Bool.and_eq_true_iff.mp hb
      obtain ⟨w, rfl⟩ := valid_string hv
      split at hinner
      · rename_i hgi
        cases f with
        | zero => simp [de, hget, NR]
        | succ f' => simp [de, hget, hgi, strImplied_check hreg himp hv, NR]
      · cases hinner
    · -- string enum → enum of data-less variants
      rename_i variants _ _ _
      obtain ⟨hsimple, hvs⟩ := Bool.and_eq_true_iff.mp hb
      obtain ⟨w, rfl, hw⟩ := valid_enum_str hv hvs
      cases hfind : variants.find? (fun q => q.wire == w) with
      | none =>
        obtain ⟨vr, hvrm, hvrw⟩ := List.any_eq_true.mp hw
        exact absurd hvrw (List.find?_eq_none.mp hfind vr hvrm)
      | some vr =>
        exact de_ext_str_NR hget hfind (List.all_eq_true.mp hsimple vr (List.mem_of_find?_eq_some hfind)) f
    · -- array with minItems = maxItems = n → [T; n]
      simp only [Bool.and_eq_true, decide_eq_true_eq] at hb
      obtain ⟨⟨h1, h2⟩, hb⟩ := hb
      obtain ⟨xs, rfl, hmn, hmx, hmem⟩ := valid_array hv
      have hl := Nat.le_antisymm (h2 ▸ hmx _ rfl) (h1 ▸ hmn _ rfl)
      simp only [de, hget, if_pos hl]
      split
      · exact NR_ok
      · exact NR_err (hitems hb hmem) ‹_›
    · -- object with only additionalProperties → map with string keys
      obtain ⟨hk, hb⟩ := Bool.and_eq_true_iff.mp hb
      obtain ⟨kvs, rfl, _, hmem⟩ := valid_object hv
      split at hk
      · exact map_entries_NR x vx σ d hm hrec hget ‹_› hb (membersV_additional hmem) (f + 1)
      · cases hk
    · -- array → Vec
      obtain ⟨xs, rfl, _, _, hmem⟩ := valid_array hv
      simp only [de, hget]
      split
      · exact NR_ok
      · exact NR_err (hitems hb hmem) ‹_›
    · -- array → Set (rendered as Vec)
      obtain ⟨xs, rfl, _, _, hmem⟩ := valid_array hv
      simp only [de, hget]
      split
      · exact NR_ok
      · exact NR_err (hitems hb hmem) ‹_›
    · -- tuple
      obtain ⟨xs, rfl, hz⟩ := valid_tuple hv
      simp only [de, hget]
      split
      · exact NR_ok
      · exact NR_err (tuple_accepts x vx σ d hm hrec hb hz f) ‹_›
    · -- object → struct
      obtain ⟨kvs, rfl, _⟩ := valid_object hv
      simp only [de, hget]
      exact struct_accepts x vx σ d hm hrec hb hv f
    -- oneOf / anyOf of a schema and `null`, either way round → Option
    · exact nullable_accepts x vx σ d hrec hget hb (alt_pair (valid_oneOf hv)) f
    · exact nullable_accepts x vx σ d hrec hget hb (alt_pair (valid_oneOf hv)).symm f
    · exact nullable_accepts x vx σ d hrec hget hb (alt_pair (valid_anyOf hv)) f
    · exact nullable_accepts x vx σ d hrec hget hb (alt_pair (valid_anyOf hv)).symm f
    -- oneOf / anyOf → enum, externally, internally, adjacently tagged, untagged
    · obtain ⟨hnd, hall⟩ := Bool.and_eq_true_iff.mp hb
      exact ext_accepts x vx σ d hm hrec hget hnd hall (valid_oneOf hv) f
    · obtain ⟨hnd, hall⟩ := Bool.and_eq_true_iff.mp hb
      exact ext_accepts x vx σ d hm hrec hget hnd hall (valid_anyOf hv) f
    · exact int_accepts x vx σ d hm hrec hget (Bool.and_eq_true_iff.mp hb).2 (valid_oneOf hv) f
    · exact int_accepts x vx σ d hm hrec hget (Bool.and_eq_true_iff.mp hb).2 (valid_anyOf hv) f
    · exact adj_accepts x vx σ d hm hrec hget (Bool.and_eq_true_iff.mp hb).2 (valid_oneOf hv) f
    · exact adj_accepts x vx σ d hm hrec hget (Bool.and_eq_true_iff.mp hb).2 (valid_anyOf hv) f
    · simp only [de, hget]
      exact variants_accept x vx σ d hm hrec hb (valid_oneOf hv) f
    · simp only [de, hget]
      exact variants_accept x vx σ d hm hrec hb (valid_anyOf hv) f
    · cases hb

/-- **C02 (model level), all instances**: a faithful reading never rejects a schema-valid instance. -/
theorem conv_accepts (hreg : ∀ p s, x.regex p s = vx.regex p s) (rid : String → Option Id)
    (hall : AllConv σ rid d) :
    ∀ (fv fc : Nat) (s : Schema) (t : Id) (v : Json),
      convB σ rid fc s t = true → valid vx d fv s v = some true → ∀ fd, NR (de x σ fd t v) := by
  intro fv
  induction fv using Nat.strongRecOn with
  | _ fv ihv =>
    intro fc
    induction fc with
    | zero => intro s t v hc; cases hc
    | succ fc ihc =>
      intro s t v hc hv
      cases fv with
      | zero => cases hv
      | succ m =>
        simp only [convB] at hc
        split at hc
        · -- `$ref`: unfold the definition, one unit of validity fuel
          rename_i k
          rcases Bool.or_eq_true_iff.mp hc with hc | hc
          · simp only [valid] at hv
            split at hv
            · rename_i s' hg
              obtain ⟨t', fc', hr, hc'⟩ := hall k s' hg
              cases hr.symm.trans (beq_iff_eq.mp hc)
              exact ihv m (Nat.lt_succ_self m) fc' s' t v hc' hv
            · cases hv
          · split at hc
            · exact de_box_NR ‹_› (ihc _ _ v hc hv)
            · exact de_alias_NR ‹_› (ihc _ _ v hc hv)
            · cases hc
        · -- otherwise: through transparent wrappers down to `convD`
          cases hg : σ.get t with
          | none => rw [hg] at hc; cases hc
          | some ent =>
            obtain ⟨det, ed, im⟩ := ent
            simp only [hg] at hc
            split at hc
            · exact de_alias_NR hg (ihc _ _ v hc hv)
            · exact de_box_NR hg (ihc _ _ v hc hv)
            · exact convD_accepts x vx σ d hreg (fun m' hm' => ihv m' hm' fc) hg hc hv

/-! non-vacuity: a recursive definition `Node = {next?: Node, v: integer 0..255}` read by a struct
    with an optional boxed self reference -/
def exDoc : Doc := { defs := [("Node", .object [("next", .ref "Node"), ("v", .integer (some 0) (some 255))] ["v"] .open_)] }
def exSpace : Space := { entries := [
  (1, ⟨.struct "Node" [⟨"next", .none, .optional, 3⟩, ⟨"v", .none, .required, 2⟩] false none, [], []⟩),
  (2, ⟨.integer "u8", [], []⟩),
  (3, ⟨.option 4, [], []⟩),
  (4, ⟨.box 1, [], []⟩)] }
def exRid (k : String) : Option Id := if k = "Node" then some 1 else none

example : convB exSpace exRid 5 (.object [("next", .ref "Node"), ("v", .integer (some 0) (some 255))] ["v"] .open_) 1 = true := by
  rfl
example : valid ⟨fun _ _ => true⟩ exDoc 6 (.ref "Node") (.obj [("next", .obj [("v", .int 3)]), ("v", .int 7)]) = some true := by
  rfl
example : de ⟨fun _ _ => true⟩ exSpace 9 1 (.obj [("next", .obj [("v", .int 3)]), ("v", .int 7)]) =
    .ok (.struct [("next", .some (.struct [("next", .none), ("v", .int 3)])), ("v", .int 7)]) := by
  rfl

end TypifyModel.C02
