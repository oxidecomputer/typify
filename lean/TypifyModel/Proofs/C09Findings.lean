import TypifyModel.Proofs.C09
/-! # C09 findings: the full statements are false on the current tree

Kernel-checked refutations, one witness per defective arm of merge.rs (`Merge.Gap`). Each witness was
reproduced on the REAL `merge_all` through `typify_impl::verif::verif_merge_all` and judged by
tools/oracle.py (KNOWN_FINDINGS.json, ids `C09-*`). This file is allowed to stop compiling when merge.rs
is repaired. -/
namespace TypifyModel.C09
open TypifyModel TypifyModel.Validate TypifyModel.Merge

def d0 : Doc := ⟨[]⟩

/-! ### `never` although an instance satisfies both (violates "accepts every instance valid under all") -/

/-- merge.rs:619 compares `integer` and `number` for equality: `allOf [integer, number]` is reported
    unsatisfiable, yet `1` is valid under both -/
theorem gap_intNumber : tryMerge true d0 2 (.integer none none) .number = .never [.intNumber] ∧
    valid xAll d0 1 (.integer none none) (.int 1) = some true ∧ valid xAll d0 1 .number (.int 1) = some true :=
  ⟨rfl, rfl, rfl⟩

/-- merge.rs:806 propagates an `items` conflict as "array unsatisfiable", yet `[]` is valid under both -/
theorem gap_arrayItems : tryMerge true d0 3 (.array .null none none false) (.array .boolean none none false) = .never [.arrayItems] ∧
    valid xAll d0 2 (.array .null none none false) (.arr []) = some true ∧
    valid xAll d0 2 (.array .boolean none none false) (.arr []) = some true :=
  ⟨rfl, rfl, rfl⟩

theorem merge_never_false : ¬ merge_never := by
  intro h
  exact h true xAll d0 2 (.integer none none) .number [.intNumber] rfl rfl (.int 1) 1 1 ⟨rfl, rfl⟩

/-! ### an `ok` answer that is not the intersection -/

/-- try_merge_schema_not ignores `enum` of the negated schema: `enum [1,2,3]` ∧ `not enum [2]` = `enum [1,2,3]` -/
theorem gap_notDropped : tryMerge true d0 3 (.enumVals [.int 1, .int 2, .int 3]) (.not (.enumVals [.int 2])) =
      .ok (.enumVals [.int 1, .int 2, .int 3]) [.notDropped] ∧
    valid xAll d0 1 (.enumVals [.int 1, .int 2, .int 3]) (.int 2) = some true ∧
    valid xAll d0 2 (.not (.enumVals [.int 2])) (.int 2) = some false :=
  ⟨rfl, rfl, rfl⟩

/-- merge.rs:468 "completely wrong for arrays of len > 1": `not {required: [a, b]}` forbids both members,
    so `{a: null}` — valid under both inputs — is rejected -/
theorem gap_notRequired :
    tryMerge true d0 3 (.object [("a", .any), ("b", .any)] [] .open_) (.not (.object [] ["a", "b"] .open_)) =
      .ok (.object [("a", .never), ("b", .never)] [] .open_) [.notRequired] ∧
    valid xAll d0 2 (.object [("a", .any), ("b", .any)] [] .open_) (.obj [("a", .null)]) = some true ∧
    valid xAll d0 3 (.not (.object [] ["a", "b"] .open_)) (.obj [("a", .null)]) = some true ∧
    valid xAll d0 2 (.object [("a", .never), ("b", .never)] [] .open_) (.obj [("a", .null)]) = some false :=
  ⟨rfl, rfl, rfl, rfl⟩

def objReq (k : String) : Schema := .object [(k, .boolean)] [k] .open_

/-- try_merge_with_each_subschema subtracts the *other* branches from each merged branch, also for
    `anyOf`: an instance matching two branches is rejected -/
theorem gap_overlap :
    (∃ m, tryMerge true d0 4 (.object [("c", .null)] [] .open_) (.anyOf [objReq "a", objReq "b"]) = .ok m [.overlap] ∧
      valid xAll d0 6 m (.obj [("a", .bool true), ("b", .bool true)]) = some false) ∧
    valid xAll d0 2 (.object [("c", .null)] [] .open_) (.obj [("a", .bool true), ("b", .bool true)]) = some true ∧
    valid xAll d0 3 (.anyOf [objReq "a", objReq "b"]) (.obj [("a", .bool true), ("b", .bool true)]) = some true :=
  ⟨⟨_, rfl, rfl⟩, rfl, rfl⟩

def dArr : Doc := ⟨[("A", .array (.string none none none) none none false)]⟩

/-- `roughly` (merge.rs:1181) compares arrays by `items` only: the merge of `$ref A` with `maxItems: 1`
    is "roughly A", the reference is kept and the bound is lost -/
theorem gap_roughlyArray :
    tryMerge true dArr 4 (.ref "A") (.array .any none (some 1) false) = .ok (.ref "A") [.roughlyArray] ∧
    valid xAll dArr 3 (.ref "A") (.arr [.str "p", .str "q"]) = some true ∧
    valid xAll dArr 3 (.array .any none (some 1) false) (.arr [.str "p", .str "q"]) = some false :=
  ⟨rfl, rfl, rfl⟩

theorem merge_inter_false : ¬ merge_inter := by
  intro h
  have := (h true xAll d0 3 (.enumVals [.int 1, .int 2, .int 3]) (.not (.enumVals [.int 2])) _ _ rfl rfl
    (.int 2) 1 2 true false rfl rfl).2 1 true rfl
  simp at this

def notReq (k : String) : Schema := .not (.object [] [k] .open_)
def objC : Schema := .object [("c", .null)] [] .open_

/-- `not {required: [k]}` is honoured only when the accumulated schema already is an object:
    `[not a, not b, object]` drops both, `[object, not a, not b]` applies both -/
theorem gap_order :
    mergeAll true d0 5 [notReq "a", notReq "b", objC] = .ok objC [.notDropped, .notDropped] ∧
    mergeAll true d0 5 [objC, notReq "a", notReq "b"] = .ok (.object [("c", .null), ("a", .never), ("b", .never)] [] .open_) [] ∧
    valid xAll d0 2 objC (.obj [("a", .null)]) = some true ∧
    valid xAll d0 2 (.object [("c", .null), ("a", .never), ("b", .never)] [] .open_) (.obj [("a", .null)]) = some false :=
  ⟨rfl, rfl, rfl, rfl⟩

theorem perm3 (a b c : Schema) : [a, b, c].Perm [c, a, b] :=
  ((List.Perm.swap b c []).symm.cons a).trans (List.Perm.swap c a [b])

theorem merge_perm_false : ¬ merge_perm := by
  intro h
  have := h true xAll d0 5 5 [notReq "a", notReq "b", objC] [objC, notReq "a", notReq "b"] _ _ _ _
    (perm3 _ _ _) rfl rfl (.obj [("a", .null)])
    (by
      intro s hs
      simp only [List.mem_cons, List.not_mem_nil, or_false] at hs
      rcases hs with rfl | rfl | rfl
      · exact ⟨3, _, rfl⟩
      · exact ⟨3, _, rfl⟩
      · exact ⟨2, _, rfl⟩)
    2 2 true false rfl rfl
  simp at this

theorem merge_all_inter_false : ¬ merge_all_inter := by
  intro h
  have := (h true xAll d0 5 [notReq "a", notReq "b", objC] _ _ rfl (.obj [("a", .null)])
    (by
      intro s hs
      simp only [List.mem_cons, List.not_mem_nil, or_false] at hs
      rcases hs with rfl | rfl | rfl
      · exact ⟨3, _, rfl⟩
      · exact ⟨3, _, rfl⟩
      · exact ⟨2, _, rfl⟩)).2 2 true rfl
  have hall := this.mp rfl
  obtain ⟨f, hf⟩ := hall (notReq "a") (by simp)
  have hfalse : valid xAll d0 3 (notReq "a") (.obj [("a", .null)]) = some false := rfl
  have := valid_det xAll d0 hf hfalse
  simp at this

end TypifyModel.C09
