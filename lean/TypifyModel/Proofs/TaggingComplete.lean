import TypifyModel.Proofs.Tagging
/-! `maybe_internally_tagged_enum`, the other direction: whenever some member is pinned and required in every subschema with
    pairwise different strings, a tag IS found, and it is the least such member. With `intTag_sound` this characterises the
    chosen tag exactly (`intTag_exact`): it does not depend on anything but the set of members that qualify. -/
namespace TypifyModel.Tagging
open TypifyModel TypifyModel.Excl

theorem least_none : ∀ {l : List String}, least l = none → l = [] := by
  intro l h
  cases l with
  | nil => rfl
  | cons a r =>
    unfold least at h
    split at h
    · cases h
    · split at h <;> cases h

/-- `least` finds a lower bound of the list (`t ≤ m` for every member `m`) -/
theorem least_le : ∀ {l : List String} {m : String}, m ∈ l → ∃ t, least l = some t ∧ t ≤ m := by
  intro l
  induction l with
  | nil => intro m h; simp at h
  | cons a r ih =>
    intro m hm
    unfold least
    cases hr : least r with
    | none =>
      have : r = [] := least_none hr
      subst this
      have : m = a := by simpa using hm
      subst this
      exact ⟨m, rfl, String.le_refl _⟩
    | some b =>
      simp only
      by_cases hba : b < a
      · simp only [hba, if_true]
        refine ⟨b, rfl, ?_⟩
        rcases List.mem_cons.mp hm with h | h
        · subst h; exact String.not_lt.mp (String.lt_asymm hba)
        · obtain ⟨t, ht, hle⟩ := ih h
          rw [hr] at ht; cases ht; exact hle
      · simp only [hba, if_false]
        refine ⟨a, rfl, ?_⟩
        rcases List.mem_cons.mp hm with h | h
        · subst h; exact String.le_refl _
        · obtain ⟨t, ht, hle⟩ := ih h
          rw [hr] at ht; cases ht
          exact String.le_trans (String.not_lt.mp hba) hle

/-- a member every remaining subschema pins, to strings not seen so far, survives the fold -/
theorem foldl_intStep_complete (k : String) :
    ∀ (r : List (List (String × String))) (acc : List (String × List String)) (ws vs : List String),
      (k, ws) ∈ acc → vs.length = r.length → (∀ p ∈ r.zip vs, lookupS p.1 k = some p.2) → (ws ++ vs).Nodup →
      (k, ws ++ vs) ∈ r.foldl intStep acc := by
  intro r
  induction r with
  | nil =>
    intro acc ws vs hacc hlen _ _
    have : vs = [] := List.eq_nil_of_length_eq_zero (by simpa using hlen)
    subst this
    simpa using hacc
  | cons b r ih =>
    intro acc ws vs hacc hlen hlk hnd
    cases vs with
    | nil => simp at hlen
    | cons v vs' =>
      simp only [List.foldl_cons]
      have hb : lookupS b k = some v := hlk (b, v) (by simp)
      have hnc : ws.contains v = false := by
        have h1 := (List.nodup_append.mp hnd).2.2
        cases hc : ws.contains v with
        | false => rfl
        | true =>
          have hm : v ∈ ws := by simpa using hc
          exact absurd rfl (h1 v hm v (by simp))
      have hstep : (k, ws ++ [v]) ∈ intStep acc b := by
        unfold intStep
        rw [List.mem_filterMap]
        have hnm : v ∉ ws := by intro hm; simp [hm] at hnc
        exact ⟨(k, ws), hacc, by simp [hb, hnm]⟩
      have := ih (intStep acc b) (ws ++ [v]) vs' hstep (by simpa using hlen)
        (fun p hp => hlk p (by simp [List.zip_cons_cons, hp])) (by simpa using hnd)
      simpa using this

theorem intReduce_complete {bs : List (List (String × String))} {k : String} {vs : List String}
    (hne : bs ≠ []) (hlen : vs.length = bs.length) (hlk : ∀ p ∈ bs.zip vs, lookupS p.1 k = some p.2) (hnd : vs.Nodup) :
    ∃ acc, intReduce bs = some acc ∧ (k, vs) ∈ acc := by
  cases bs with
  | nil => exact absurd rfl hne
  | cons b r =>
    cases vs with
    | nil => simp at hlen
    | cons v vs' =>
      refine ⟨_, rfl, ?_⟩
      have hb : lookupS b k = some v := hlk (b, v) (by simp)
      have h0 : (k, [v]) ∈ b.map (fun kv => (kv.1, [kv.2])) :=
        List.mem_map.mpr ⟨(k, v), lookupS_mem hb, rfl⟩
      have := foldl_intStep_complete k r _ [v] vs' h0 (by simpa using hlen)
        (fun p hp => hlk p (by simp [List.zip_cons_cons, hp])) (by simpa using hnd)
      simpa using this

/-- what `intBranch` records for a member that `Json.lookup` finds, required and pinned -/
theorem lookupS_filterMap_of_lookup {ps : List (String × Json)} {rq : List String} {k v : String} {sch : Json}
    (hl : Json.lookup ps k = some sch) (hr : rq.contains k = true) (hc : constStr sch = some v) :
    lookupS (ps.filterMap (fun (kv : String × Json) => if rq.contains kv.1 then (constStr kv.2).map (fun v => (kv.1, v)) else none)) k
      = some v := by
  induction ps with
  | nil => simp [Json.lookup] at hl
  | cons kv r ih =>
    obtain ⟨k', s'⟩ := kv
    unfold Json.lookup at hl
    by_cases hk : k' = k
    · subst hk
      simp only [if_true] at hl
      cases hl
      have hr' : k' ∈ rq := by simpa using hr
      simp [hr', hc, lookupS]
    · simp only [hk, if_false] at hl
      rw [List.filterMap_cons]
      split
      · exact ih hl
      · rename_i w hw
        split at hw
        · cases hcs : constStr s' with
          | none => rw [hcs] at hw; simp at hw
          | some u =>
            rw [hcs] at hw
            simp only [Option.map_some, Option.some.injEq] at hw
            subst hw
            have : (k' == k) = false := by simpa using hk
            simp only [lookupS, this]
            exact ih hl
        · simp at hw

theorem intBranch_complete {f : Nat} {s : Json} {k v : String} (hd : PropsDistinct f s) (hp : Pinned f s k v) :
    lookupS (intBranch f s) k = some v := by
  obtain ⟨o, rq, ps, sch, ho, hr, hps, hc, hm, hcs⟩ := hp
  unfold intBranch
  rw [ho]; simp only [hr, hps]
  exact lookupS_filterMap_of_lookup (lookup_eq_of_mem (hd o ps ho hps) hm) hc hcs

/-- `k` qualifies as the tag of the union: required and pinned in every subschema, the strings pairwise different -/
def IsTag (f : Nat) (ss : List Json) (k : String) : Prop :=
  ∃ vs : List String, vs.length = ss.length ∧ vs.Nodup ∧ ∀ p ∈ ss.zip vs, Pinned f p.1 k p.2

/-- **a qualifying member is never overlooked**: some tag is chosen, and it is not greater -/
theorem intTag_complete {f : Nat} {ss : List Json} {k : String} (hne : ss ≠ []) (hd : ∀ s ∈ ss, PropsDistinct f s)
    (hk : IsTag f ss k) : ∃ t, intTag f ss = some t ∧ t ≤ k := by
  obtain ⟨vs, hlen, hnd, hall⟩ := hk
  have hlk : ∀ p ∈ (ss.map (intBranch f)).zip vs, lookupS p.1 k = some p.2 :=
    (forall_mem_zip fun b v => lookupS b k = some v).mpr fun i hi hv => by
      have his : i < ss.length := by simpa using hi
      rw [List.getElem_map]
      exact intBranch_complete (hd _ (List.getElem_mem his)) ((forall_mem_zip (Pinned f · k ·)).mp hall i his hv)
  obtain ⟨acc, hacc, hm⟩ := intReduce_complete (bs := ss.map (intBranch f)) (by simpa using hne) (by simpa using hlen) hlk hnd
  obtain ⟨t, ht, hle⟩ := least_le (l := acc.map (·.1)) (m := k) (List.mem_map.mpr ⟨(k, vs), hm, rfl⟩)
  exact ⟨t, by unfold intTag; rw [hacc]; exact ht, hle⟩

/-- **the tag of an internally tagged enum, exactly**: the least member that is required and pinned in every subschema to
    pairwise different strings — nothing else about the subschemas (their order, their other members) matters -/
theorem intTag_exact {f : Nat} {ss : List Json} {t : String} (hne : ss ≠ []) (hd : ∀ s ∈ ss, PropsDistinct f s) :
    intTag f ss = some t ↔ IsTag f ss t ∧ ∀ k, IsTag f ss k → t ≤ k := by
  constructor
  · intro h
    refine ⟨intTag_sound h, ?_⟩
    intro k hk
    obtain ⟨t', ht', hle⟩ := intTag_complete hne hd hk
    rw [h] at ht'; cases ht'; exact hle
  · intro ⟨hit, hmin⟩
    obtain ⟨t', ht', hle⟩ := intTag_complete hne hd hit
    have := hmin t' (intTag_sound ht')
    rw [String.le_antisymm this hle]; exact ht'

/-- no tag is found exactly when no member qualifies -/
theorem intTag_none_iff {f : Nat} {ss : List Json} (hne : ss ≠ []) (hd : ∀ s ∈ ss, PropsDistinct f s) :
    intTag f ss = none ↔ ∀ k, ¬ IsTag f ss k := by
  constructor
  · intro h k hk
    obtain ⟨t, ht, _⟩ := intTag_complete hne hd hk
    rw [h] at ht; cases ht
  · intro h
    cases ht : intTag f ss with
    | none => rfl
    | some t => exact absurd (intTag_sound ht) (h t)

/-- the hypotheses are satisfiable: the two-branch union of `Proofs/Tagging.lean` has distinct property names and `t` qualifies -/
example :
    let ss := [Json.obj [("properties", .obj [("t", .obj [("enum", .arr [.str "x"])]), ("v", .obj [("type", .str "integer")])]),
                         ("required", .arr [.str "t"]), ("type", .str "object")],
               Json.obj [("properties", .obj [("t", .obj [("const", .str "y"), ("type", .str "string")])]),
                         ("required", .arr [.str "t"]), ("type", .str "object")]]
    ss ≠ [] ∧ IsTag 8 ss "t" ∧ ∀ s ∈ ss, PropsDistinct 8 s := by
  refine ⟨by simp, intTag_sound (by decide +kernel), ?_⟩
  intro s hs o ps ho hp
  simp only [List.mem_cons, List.not_mem_nil, or_false] at hs
  rcases hs with rfl | rfl <;> cases ho <;> cases hp <;> decide

end TypifyModel.Tagging
