import TypifyModel.Proofs.C17
/-! Kernel-checked refutations of full C17 statements for the typify source under /repo (known findings).
    Allowed to stop compiling when a finding is repaired. -/
namespace TypifyModel.C17
open TypifyModel TypifyModel.Render TypifyModel.Api

def exSpace : Space := { entries := [
  (1, ⟨.string, [], [.fromStr, .display, .default]⟩),
  (2, ⟨.newtype "N" 1 (.string (some 3) none none) none, [], [.fromStr, .display]⟩)] }

/-- full statement: has_impl true ⇒ the item has the impl -/
def has_impl_sound_full : Prop :=
  ∀ (tb : DeriveTables) (st : Settings) (σ : Space) (f : Nat) (t : Id) (ent : Entry) (it : ItemS)
    (fns : List String) (i : Impl), σ.get t = some ent → itemOf tb st σ ent = some (it, fns) →
    Api.hasImpl σ (f + 1) t i = true → implK i ∈ it.impls

/-- C17-display: `has_impl(Display)` is true for a constrained string newtype, no `Display` is emitted -/
theorem has_impl_sound_full_false : ¬ has_impl_sound_full := by
  intro h
  have := h ⟨[], [], []⟩ {} exSpace 1 2 ⟨.newtype "N" 1 (.string (some 3) none none) none, [], [.fromStr, .display]⟩
    _ _ .display rfl rfl (by rfl)
  revert this
  decide

/-- independent table: does the Rust builtin implement the trait? (`NonZero*: Default` does not exist) -/
def builtinImplements (name : String) (i : Impl) : Bool :=
  match i with
  | .default => (match Serde.rtyOfName name with | some ty => !ty.isNonZero | none => true)
  | _ => true

/-- C17-nonzero-default: the API claims `Default` for NonZero integers -/
theorem builtin_has_impl_full_false :
    ¬ (∀ (σ : Space) (t : Id) (name : String) (i : Impl) (ed : List String) (im : List Impl),
        σ.get t = some ⟨.integer name, ed, im⟩ → Api.hasImpl σ 1 t i = true → builtinImplements name i = true) := by
  intro h
  have := h { entries := [(1, ⟨.integer "::std::num::NonZeroU64", [], []⟩)] } 1 "::std::num::NonZeroU64" .default [] [] rfl rfl
  revert this
  decide

end TypifyModel.C17
