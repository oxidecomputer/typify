import TypifyModel.Model.Enc
import TypifyModel.Proofs.C05
import TypifyModel.Proofs.FlattenFindings
import TypifyModel.Proofs.Lemmas.ConvLemmas
import TypifyModel.Proofs.Lemmas.SerdeDe
/-! # C05 at the level of the schema: what the generated type accepts is valid under the enforced projection

`enc_sound`: for every document `d`, IR `σ`, registration `rid` of the definitions, schema `S`, type `τ`, JSON `j`:
if every definition is enforced by its registered type (`AllEnc`) and `encB d σ rid fc S τ` holds, then
`de τ j = ok v` implies `validE d g S j ≠ some false` for every fuel — the type accepts nothing that violates a
constraint of the kinds C05 lists. Together with C02's `conv_accepts` (valid ⇒ not rejected) this pins the accepted
set between the schema and its enforced projection. `encB` is evaluated on the real (schema, IR dump) pairs by
`./check C05` (translation validation); a conversion that drops a pattern, a length bound, a `required` entry or
`additionalProperties: false` makes it false for that definition.

The proof keeps apart what `de` read (Lemmas/SerdeDe.lean and the `de…` lemmas here: no schema in sight) and why
`validE` does not refute it (verdicts are combined through `NF`). -/
namespace TypifyModel.C05E
open TypifyModel TypifyModel.Serde TypifyModel.Validate TypifyModel.Conv TypifyModel.Enc

/-- "not refuted": `some true`, or no verdict (out of fuel) -/
abbrev NF (r : Option Bool) : Prop := r ≠ some false

theorem NF_some {b : Bool} : NF (some b) ↔ b = true := by cases b <;> decide

theorem NF_true : NF (some true) := NF_some.2 rfl

theorem NF_none : NF none := nofun

theorem and3_NF {a b : Option Bool} (ha : NF a) (hb : NF b) : NF (and3 a b) := by
  cases a with
  | none => exact NF_none
  | some x =>
    cases b with
    | none => exact NF_none
    | some y =>
      show NF (some (x && y))
      rw [NF_some.1 ha, NF_some.1 hb]
      exact NF_true

theorem allJ_NF {g : Json → Option Bool} : ∀ {xs : List Json}, (∀ x ∈ xs, NF (g x)) → NF (allJ g xs)
  | [], _ => NF_true
  | a :: _, h => and3_NF (h a (.head _)) (allJ_NF fun x hx => h x (.tail _ hx))

theorem array_sound {f : Json → Except E Val} {g : Json → Option Bool} (h : ∀ j v, f j = .ok v → NF (g j))
    {xs : List Json} {vs : List Val} (hvs : mapM' f xs = .ok vs) : NF (allJ g xs) :=
  allJ_NF fun j hj => let ⟨v, hv⟩ := C05.mapM'_mem hvs j hj; h j v hv

theorem tuple_sound {f : Id → Json → Except E Val} {g : Schema → Json → Option Bool} {rec : Schema → Id → Bool}
    (h : ∀ s t j v, rec s t = true → f t j = .ok v → NF (g s j)) :
    ∀ {items : List Schema} {ts : List Id} {xs : List Json} {vs : List Val},
      zipB rec items ts = true → zipM f ts xs = .ok vs → NF (zipV g items xs) := by
  intro items
  induction items with
  | nil =>
    intro ts xs vs he hz
    cases ts with
    | nil => cases xs with
      | nil => exact NF_true
      | cons => cases hz
    | cons => cases he
  | cons s ss ih =>
    intro ts xs vs he hz
    cases ts with
    | nil => cases he
    | cons t ts =>
      cases xs with
      | nil => cases hz
      | cons j js =>
        simp only [zipB, Bool.and_eq_true] at he
        simp only [zipM] at hz
        split at hz
        · cases hz
        · rename_i v hv
          split at hz
          · cases hz
          · rename_i vs' hvs
            exact and3_NF (h s t j v he.1 hv) (ih he.2 hvs)

theorem countV_NF {g : Schema → Option Bool} {ss : List Schema} {s : Schema} (hs : s ∈ ss) (hg : NF (g s)) :
    NF ((countV g ss).map (fun n => decide (0 < n))) := by
  have pos : ∀ {ss : List Schema} {n : Nat}, countV g ss = some n → s ∈ ss → 0 < n := by
    intro ss
    induction ss with
    | nil => intro _ _ hs; cases hs
    | cons a r ih =>
      intro n h hs
      simp only [countV] at h
      split at h
      · rename_i b m hb hm
        cases h
        rcases List.mem_cons.mp hs with rfl | hs
        · rw [hb] at hg
          cases NF_some.1 hg
          exact Nat.succ_pos m
        · have := ih hm hs; split <;> omega
      · cases h
  cases h : countV g ss with
  | none => exact NF_none
  | some n => exact NF_some.2 (decide_eq_true (pos h hs))

theorem declaredE_NF {f : Schema → Json → Option Bool} {req : List String} {kvs : List (String × Json)} :
    ∀ {l : List (String × Schema)},
      (∀ k s, (k, s) ∈ l → ∀ v, Json.lookup kvs k = some v →
        (v = .null ∧ req.contains k = false) ∨ NF (f s v)) →
      NF (declaredE f req kvs l) := by
  intro l
  induction l with
  | nil => exact fun _ => NF_true
  | cons a r ih =>
    intro h
    obtain ⟨k, s⟩ := a
    refine and3_NF ?_ (ih fun k' s' hm => h k' s' (.tail _ hm))
    cases hl : Json.lookup kvs k with
    | none => exact NF_true
    | some v =>
      rcases h k s (.head _) v hl with ⟨rfl, hr⟩ | hn
      · simp only [hr]; exact NF_true
      · cases v with
        | null => dsimp only; split <;> first | exact hn | exact NF_true
        | _ => exact hn

theorem extraE_NF {f : Schema → Json → Option Bool} {props : List (String × Schema)} {addl : Additional Schema} :
    ∀ {kvs : List (String × Json)},
      (∀ k v, (k, v) ∈ kvs → props.any (fun p => p.1 == k) = false → NF (extraHere f addl v)) →
      NF (extraE f props addl kvs) := by
  intro kvs
  induction kvs with
  | nil => exact fun _ => NF_true
  | cons a r ih =>
    intro h
    obtain ⟨k, v⟩ := a
    refine and3_NF ?_ (ih fun k' v' hm => h k' v' (.tail _ hm))
    cases hp : props.any (fun p => p.1 == k) with
    | true => exact NF_true
    | false => exact h k v (.head _) hp

/-- the step `deStruct` runs for a member that is read by name -/
def nstep (x : Serde.Ext) (σ : Space) (f : Nat) (kvs : List (String × Json)) (p : Field) : Except E (String × Val) :=
  match Json.lookup kvs p.wire with
    | some v => (match de x σ f p.ty v with | .ok a => .ok (p.name, a) | .error e => .error e)
    | none =>
      match p.state with
      | .required => if optionLikeT σ p.ty then .ok (p.name, Val.none) else .error .reject
      | .optional => (match dflt x σ f p.ty with | .ok a => .ok (p.name, a) | .error e => .error e)
      | .dflt dj => (match de x σ f p.ty dj with
          | .ok a => .ok (p.name, a)
          | .error .reject => .error .unsupported
          | .error e => .error e)

theorem nstep_required {x : Serde.Ext} {σ : Space} {f : Nat} {kvs : List (String × Json)} {p : Field} {b : String × Val}
    (hb : nstep x σ f kvs p = .ok b) (hst : p.state = .required) (hopt : optionLikeT σ p.ty = false) :
    (Json.lookup kvs p.wire).isSome = true := by
  cases hl : Json.lookup kvs p.wire with
  | some j => rfl
  | none =>
    simp only [nstep, hl, hst, hopt, Bool.false_eq_true, ↓reduceIte] at hb
    cases hb

theorem nstep_member {x : Serde.Ext} {σ : Space} {f : Nat} {kvs : List (String × Json)} {p : Field} {b : String × Val}
    (hb : nstep x σ f kvs p = .ok b) {w : Json} (hw : Json.lookup kvs p.wire = some w) : ∃ a, de x σ f p.ty w = .ok a := by
  simp only [nstep, hw] at hb
  split at hb
  · exact ⟨_, ‹_›⟩
  · cases hb

theorem foldFields_cons_ok {named : Field → Except E (String × Val)}
    {flat : Field → List (String × Json) → Except E Val × List (String × Json)} {q : Field} {ps : List Field}
    {c rest : List (String × Json)} {fs : List (String × Val)}
    (h : foldFields named flat (q :: ps) c = (.ok fs, rest)) :
    ∃ c' rs, foldFields named flat ps c' = (.ok rs, rest) ∧
      ((q.rename = .flatten ∧ ∃ v, flat q c = (.ok v, c')) ∨ (q.rename ≠ .flatten ∧ c' = c ∧ ∃ a, named q = .ok a)) := by
  simp only [foldFields] at h
  split at h
  · rename_i hq
    split at h
    · cases h
    · rename_i v c' hfq
      split at h
      · cases h
      · rename_i rs c'' hrec
        cases h
        exact ⟨c', rs, hrec, .inl ⟨eq_of_beq hq, v, hfq⟩⟩
  · rename_i hq
    split at h
    · cases h
    · rename_i a ha
      split at h
      · cases h
      · rename_i rs c'' hrec
        cases h
        exact ⟨c, rs, hrec, .inr ⟨fun hc => hq (hc ▸ beq_self_eq_true _), rfl, a, ha⟩⟩

theorem foldFields_named_ok {named : Field → Except E (String × Val)}
    {flat : Field → List (String × Json) → Except E Val × List (String × Json)} :
    ∀ (ps : List Field) (c : List (String × Json)) (fs : List (String × Val)) (rest : List (String × Json)),
      foldFields named flat ps c = (.ok fs, rest) → ∀ p ∈ ps, p.rename ≠ .flatten → ∃ b, named p = .ok b := by
  intro ps
  induction ps with
  | nil => intro _ _ _ _ p hp; cases hp
  | cons q ps ih =>
    intro c fs rest h p hp hpf
    obtain ⟨c', rs, hrec, hq⟩ := foldFields_cons_ok h
    rcases List.mem_cons.mp hp with rfl | hp
    · rcases hq with ⟨hqf, _⟩ | ⟨_, _, ha⟩
      · exact absurd hqf hpf
      · exact ha
    · exact ih c' rs rest hrec p hp hpf

theorem foldFields_flat_ok {named : Field → Except E (String × Val)}
    {flat : Field → List (String × Json) → Except E Val × List (String × Json)} :
    ∀ (ps : List Field) (c : List (String × Json)) (fs : List (String × Val)) (rest : List (String × Json)),
      (∀ p ∈ ps, p.rename = .flatten → ∀ c', (flat p c').2 = c') →
      foldFields named flat ps c = (.ok fs, rest) → ∀ p ∈ ps, p.rename = .flatten → ∃ v, (flat p c).1 = .ok v := by
  intro ps
  induction ps with
  | nil => intro _ _ _ _ _ p hp; cases hp
  | cons q ps ih =>
    intro c fs rest hk h p hp hpf
    obtain ⟨c', rs, hrec, hq⟩ := foldFields_cons_ok h
    have hc : c' = c := by
      rcases hq with ⟨hqf, v, hv⟩ | ⟨_, hc, _⟩
      · have := hk q (.head _) hqf c
        rwa [hv] at this
      · exact hc
    subst hc
    rcases List.mem_cons.mp hp with rfl | hp
    · rcases hq with ⟨_, v, hv⟩ | ⟨hqf, _⟩
      · exact ⟨v, by rw [hv]⟩
      · exact absurd hpf hqf
    · exact ih c' rs rest (fun p hp => hk p (.tail _ hp)) hrec p hp hpf

theorem fieldsE_mem {rec : Schema → Id → Bool} {σ : Space} {props : List (String × Schema)} {req : List String} {opn : Bool} :
    ∀ {fields : List Field}, fieldsE rec σ props req opn fields = true → ∀ p ∈ fields,
      (props.find? (fun q => q.1 == p.wire) = none ∧ opn = true) ∨
      ∃ q, props.find? (fun q => q.1 == p.wire) = some q ∧
        (rec q.2 p.ty = true ∨
         ∃ t' ed im, σ.get p.ty = some ⟨.option t', ed, im⟩ ∧ req.contains p.wire = false ∧ rec q.2 t' = true) := by
  intro fields
  induction fields with
  | nil => intro _ p hp; cases hp
  | cons a r ih =>
    intro h p hp
    simp only [fieldsE, Bool.and_eq_true] at h
    rcases List.mem_cons.mp hp with rfl | hp
    · have h1 := h.1
      split at h1
      · exact .inl ⟨‹_›, ((Bool.and_eq_true ..).mp h1).1⟩
      · rename_i k s hf
        refine .inr ⟨(k, s), hf, ?_⟩
        rcases (Bool.or_eq_true ..).mp h1 with h1 | h1
        · exact .inl h1
        · split at h1
          · split at h1
            · cases h1
            · simp only [Bool.and_eq_true, Bool.not_eq_true'] at h1
              exact .inr ⟨_, _, _, ‹_›, h1.1, h1.2⟩
          · cases h1
    · exact ih h.2 p hp

/-- the facts about the members read by name (`F`: all members of a plain struct, the non-flattened ones otherwise) -/
theorem struct_points_core {x : Serde.Ext} {vx : Validate.Ext} {d : Doc} {σ : Space} {g : Nat} {rec : Schema → Id → Bool}
    (hrec : ∀ s' t' j' v' fd', rec s' t' = true → de x σ fd' t' j' = .ok v' → NF (validE vx d g s' j'))
    {props : List (String × Schema)} {req : List String} {opn : Bool} {F : List Field}
    (hndp : nodupB (props.map (·.1)) = true)
    (hall : props.all (fun q => F.any (fun p => p.wire == q.1)) = true)
    (hfe : fieldsE rec σ props req opn F = true) (hreq : requiredFields d σ props F req = true)
    {fd : Nat} {kvs : List (String × Json)}
    (hR : ∀ p ∈ F, p.state = .required → optionLikeT σ p.ty = false → (Json.lookup kvs p.wire).isSome = true)
    (hM : ∀ p ∈ F, ∀ w, Json.lookup kvs p.wire = some w → ∃ a, de x σ fd p.ty w = .ok a) :
    requiredE d props kvs req = true ∧
    (∀ k s, (k, s) ∈ props → ∀ w, Json.lookup kvs k = some w →
      (w = .null ∧ req.contains k = false) ∨ NF (validE vx d g s w)) := by
  refine ⟨?_, ?_⟩
  · simp only [requiredE, List.all_eq_true, Bool.or_eq_true]
    intro r hr
    have h1 := List.all_eq_true.mp hreq r hr
    -- the member for `r`, if it has to be read from the document, was there
    have present : ∀ p, F.find? (fun p => p.wire == r) = some p →
        (match p.state with | .required => !optionLikeT σ p.ty | _ => false) = true →
        (Json.lookup kvs r).isSome = true := by
      intro p hff h1
      have hpw := List.find?_some hff
      split at h1
      · exact eq_of_beq hpw ▸ hR p (List.mem_of_find?_eq_some hff) ‹_› ((Bool.not_eq_true' _).mp h1)
      · cases h1
    split at h1
    · rename_i k s p hfp hff
      rcases (Bool.or_eq_true ..).mp h1 with h1 | h1
      · right; rw [hfp]; exact h1
      · exact .inl (present p hff h1)
    · exact .inl (present _ ‹_› h1)
    · cases h1
  · intro k s hks w hw
    obtain ⟨p, hp, hpw⟩ := List.any_eq_true.mp (List.all_eq_true.mp hall (k, s) hks)
    cases (eq_of_beq hpw : p.wire = k)
    have hks' : props.find? (fun q => q.1 == p.wire) = some (p.wire, s) :=
      nodupB_find_gen (fun (q : String × Schema) => q.1) hndp _ hks
    obtain ⟨a, ha⟩ := hM p hp w hw
    rcases fieldsE_mem hfe p hp with ⟨hnone, _⟩ | ⟨q, hq, hcase⟩
    · rw [hks'] at hnone; cases hnone
    rw [hks'] at hq
    cases hq
    rcases hcase with hcase | ⟨t', ed, im, hg, hnr, hrt⟩
    · exact .inr (hrec s p.ty w a fd hcase ha)
    · cases fd with
      | zero => cases ha
      | succ fd' =>
        rcases de_option_cases hg ha with rfl | ⟨v', hv'⟩
        · exact .inl ⟨rfl, hnr⟩
        · exact .inr (hrec s t' w v' fd' hrt hv')

theorem any_false_find_none {props : List (String × Schema)} {k : String}
    (h : props.any (fun p => p.1 == k) = false) : props.find? (fun p => p.1 == k) = none :=
  List.find?_eq_none.mpr fun q hq hc => Bool.false_ne_true (h ▸ List.any_eq_true.mpr ⟨q, hq, hc⟩)

/-- the induction hypothesis at every validity fuel up to `g` -/
def HR (x : Serde.Ext) (vx : Validate.Ext) (d : Doc) (σ : Space) (rec : Schema → Id → Bool) (g : Nat) : Prop :=
  ∀ g', g' ≤ g → ∀ s' t' j' v' fd', rec s' t' = true → de x σ fd' t' j' = .ok v' → NF (validE vx d g' s' j')

section
variable {x : Serde.Ext} {vx : Validate.Ext} {d : Doc} {σ : Space} {g fd : Nat} {rec : Schema → Id → Bool}
  {t : Id} {ed : List String} {im : List Impl} {j : Json} {v : Val}
  {ss : List Schema} {nm : String} {variants : List Variant} {deny : Bool} {dv : Option Json} {bes : List Bespoke}
  {props : List (String × Schema)} {req : List String} {addl : Additional Schema} {fields : List Field}
  {kvs : List (String × Json)}

theorem object_NF (hR : requiredE d props kvs req = true)
    (hD : ∀ k s, (k, s) ∈ props → ∀ v, Json.lookup kvs k = some v →
      (v = .null ∧ req.contains k = false) ∨ NF (validE vx d (g - 1) s v))
    (hX : ∀ k v, (k, v) ∈ kvs → props.any (fun p => p.1 == k) = false → NF (extraHere (validE vx d (g - 1)) addl v)) :
    NF (validE vx d g (.object props req addl) (.obj kvs)) := by
  cases g with
  | zero => exact NF_none
  | succ g => exact and3_NF (NF_some.2 hR) (and3_NF (declaredE_NF hD) (extraE_NF hX))

theorem validE_ref {k : String} :
    validE vx d (g + 1) (.ref k) j = match d.get k with | some s' => validE vx d g s' j | none => some false :=
  rfl

theorem enum_str_NF {vs : List Json} {w : String}
    (hm : vs.any (· == Json.str w) = true) (g : Nat) : NF (validE vx d g (.enumVals vs) (.str w)) := by
  cases g with
  | zero => exact NF_none
  | succ g => exact NF_some.2 ((Bool.or_eq_true ..).mpr (.inl hm))

/-- serde's map form of a data-less variant -/
theorem enum_map_NF {vs : List Json} {k : String} {rest : List (String × Json)}
    (hall : rest.all (fun kv => kv.1 == k) = true) (hm : vs.any (· == Json.str k) = true) (g : Nat) :
    NF (validE vx d g (.enumVals vs) (.obj ((k, .null) :: rest))) := by
  cases g with
  | zero => exact NF_none
  | succ g => exact NF_some.2 ((Bool.or_eq_true ..).mpr (.inr ((Bool.and_eq_true ..).mpr ⟨hall, hm⟩)))

theorem singleBranch_NF {s s' : Schema} (hsb : singleBranch s = some s') (h : NF (validE vx d g s' j)) :
    NF (validE vx d (g + 1) s j) := by
  unfold singleBranch at hsb
  split at hsb <;> cases hsb
  · exact countV_NF (.head _) h
  · exact countV_NF (.head _) h
  · exact and3_NF h NF_true

theorem admitsNull_valid :
    ∀ (n : Nat) (s : Schema), admitsNull d n s = true → ∀ g, NF (validE vx d g s .null) := by
  intro n
  induction n with
  | zero => intro s h; cases h
  | succ n ih =>
    intro s h g
    cases g with
    | zero => exact NF_none
    | succ g =>
      cases s with
      | any | null => exact NF_true
      | enumVals vs => exact NF_some.2 ((Bool.or_eq_true ..).mpr (.inl h))
      | ref k =>
        simp only [admitsNull] at h
        split at h
        · rename_i hk
          rw [validE_ref, hk]
          exact ih _ h g
        · cases h
      | oneOf ss | anyOf ss =>
        obtain ⟨s', hs', ha⟩ := List.any_eq_true.mp h
        exact countV_NF hs' (ih s' ha g)
      | _ => cases h

theorem strEnc_sound (hreg : ∀ p s, x.regex p s = vx.regex p s)
    {smn smx : Option Nat} {spat : Option String} {tmx tmn : Option Nat} {tpat : Option String} {s : String} :
    strEnc smn smx spat tmx tmn tpat = true → checkString x tmx tmn tpat s = true →
    ((match smn with | some m => decide (m ≤ strLen s) | none => true) &&
     (match smx with | some m => decide (strLen s ≤ m) | none => true) &&
     (match spat with | some p => vx.regex p s | none => true)) = true := by
  intro he hc
  obtain ⟨h12, h3⟩ := (Bool.and_eq_true ..).mp he
  obtain ⟨h1, h2⟩ := (Bool.and_eq_true ..).mp h12
  obtain ⟨c12, c3⟩ := (Bool.and_eq_true ..).mp hc
  obtain ⟨c1, c2⟩ := (Bool.and_eq_true ..).mp c12
  refine (Bool.and_eq_true ..).mpr ⟨(Bool.and_eq_true ..).mpr ⟨?_, ?_⟩, ?_⟩
  · cases smn with
    | none => rfl
    | some m =>
      cases tmn with
      | none => exact decide_eq_true (of_decide_eq_true h2 ▸ Nat.zero_le _)
      | some t => exact decide_eq_true (Nat.le_trans (of_decide_eq_true h2) (of_decide_eq_true c2))
  · cases smx with
    | none => rfl
    | some m =>
      cases tmx with
      | none => cases h1
      | some t => exact decide_eq_true (Nat.le_trans (of_decide_eq_true c1) (of_decide_eq_true h1))
  · cases spat with
    | none => rfl
    | some p =>
      cases tpat with
      | none => cases h3
      | some q =>
        cases eq_of_beq h3
        exact (hreg p s).symm.trans c3

theorem de_map {k vt : Id} (hg : σ.get t = some ⟨.map k vt, ed, im⟩) (h : de x σ (fd + 1) t j = .ok v) :
    ∃ kvs, j = .obj kvs ∧ ∀ kw ∈ kvs, ∃ vv, de x σ fd vt kw.2 = .ok vv := by
  simp only [de, hg] at h
  split at h
  · rename_i kvs
    refine ⟨kvs, rfl, fun kw hkw => ?_⟩
    split at h
    · rename_i es hes
      obtain ⟨b, hb⟩ := C05.mapM'_mem hes kw hkw
      split at hb
      · exact ⟨_, ‹_›⟩
      · exact ⟨_, ‹_›⟩
      all_goals cases hb
    · cases h
  · cases h

theorem de_string_newtype {inner : Id} {tmx tmn : Option Nat} {tpat : Option String} {ed' : List String}
    {im' : List Impl}
    (hget : σ.get t = some ⟨.newtype nm inner (.string tmx tmn tpat) dv, ed, im⟩)
    (hgi : σ.get inner = some ⟨.string, ed', im'⟩) (hde : de x σ (fd + 1) t j = .ok v) :
    ∃ w, j = .str w ∧ checkString x tmx tmn tpat w = true := by
  simp only [de, hget] at hde
  split at hde
  · cases hde
  · rename_i v' hv'
    cases fd with
    | zero => cases hv'
    | succ fd =>
      obtain ⟨w, rfl⟩ := (C05.scalar_type_enforced x σ fd inner _ hgi j v' hv').1 rfl
      simp only [de, hgi] at hv'
      cases hv'
      dsimp only at hde
      split at hde
      · exact ⟨w, rfl, ‹_›⟩
      · cases hde

/-- `Box<t'>` or a newtype of `t'` without constraints -/
def Wraps (σ : Space) (t t' : Id) : Prop :=
  (∃ ed im, σ.get t = some ⟨.box t', ed, im⟩) ∨ ∃ n dv ed im, σ.get t = some ⟨.newtype n t' .none dv, ed, im⟩

theorem de_wraps {t' : Id} (h : Wraps σ t t') (hde : de x σ (fd + 1) t j = .ok v) : de x σ fd t' j = .ok v := by
  rcases h with ⟨ed, im, hg⟩ | ⟨n, dv, ed, im, hg⟩
  · simp only [de, hg] at hde
    exact hde
  · exact de_newtype_ok hg hde

theorem deStruct_obj :
    deStruct x σ (fd + 1) fields deny (.obj kvs) =
      if hasFlatten fields = true then
        match foldFields (nstep x σ fd kvs) (fun p c => deFlat x σ fd p.ty c) fields (bufferOf fields kvs) with
        | (.error e, _) => .error e
        | (.ok fs, rest) => if (deny && !rest.isEmpty) = true then .error .reject else .ok (.struct fs)
      else if (deny && kvs.any fun kv => !(fields.any fun p => p.wire == kv.1)) = true then .error .reject else
        match mapM' (nstep x σ fd kvs) fields with
        | .ok fs => .ok (.struct fs)
        | .error e => .error e :=
  rfl

theorem deStruct_named (h : deStruct x σ (fd + 1) fields deny (.obj kvs) = .ok v) {F : List Field}
    (hF : ∀ p ∈ F, p ∈ fields ∧ p.rename ≠ .flatten) :
    (∀ p ∈ F, p.state = .required → optionLikeT σ p.ty = false → (Json.lookup kvs p.wire).isSome = true) ∧
    (∀ p ∈ F, ∀ w, Json.lookup kvs p.wire = some w → ∃ a, de x σ fd p.ty w = .ok a) := by
  have step : ∀ p ∈ F, ∃ b, nstep x σ fd kvs p = .ok b := by
    intro p hp
    obtain ⟨hp, hpf⟩ := hF p hp
    by_cases hfl : hasFlatten fields = true
    · rw [deStruct_obj, if_pos hfl] at h
      split at h
      · cases h
      · exact foldFields_named_ok fields _ _ _ ‹_› p hp hpf
    · rw [deStruct_obj, if_neg hfl] at h
      split at h
      · cases h
      · split at h
        · exact C05.mapM'_mem ‹_› p hp
        · cases h
  exact ⟨fun p hp hst hopt => let ⟨_, hb⟩ := step p hp; nstep_required hb hst hopt,
    fun p hp w hw => let ⟨_, hb⟩ := step p hp; nstep_member hb hw⟩

theorem deStruct_flat_map {e : Field} {k vt : Id}
    (hflat : fields.filter (fun p => p.rename == .flatten) = [e]) (hge : σ.get e.ty = some ⟨.map k vt, ed, im⟩)
    (h : deStruct x σ (fd + 1) fields deny (.obj kvs) = .ok v) :
    ∀ kw ∈ bufferOf fields kvs, ∃ fd' vv, de x σ fd' vt kw.2 = .ok vv := by
  have hmem : ∀ p, p ∈ fields → p.rename = .flatten → p = e := fun p hp hpf =>
    List.mem_singleton.mp (hflat ▸ List.mem_filter.mpr ⟨hp, hpf ▸ beq_self_eq_true _⟩)
  obtain ⟨he, hef⟩ := List.mem_filter.mp (hflat ▸ List.mem_singleton_self e)
  rw [deStruct_obj, if_pos (show hasFlatten fields = true from List.any_eq_true.mpr ⟨e, he, hef⟩)] at h
  split at h
  · cases h
  · rename_i fs rest hfold
    obtain ⟨vm, hvm⟩ := foldFields_flat_ok fields _ fs rest
      (fun p hp hpf c' => hmem p hp hpf ▸ Flatten.flat_map_keeps x σ hge fd c') hfold e he (eq_of_beq hef)
    cases fd with
    | zero => cases hvm
    | succ fd' =>
      simp only [deFlat_map_eq x σ hge] at hvm
      obtain ⟨_, hc, hm⟩ := de_map hge hvm
      cases hc
      exact fun kw hkw => ⟨fd', hm kw hkw⟩

theorem isSimple_iff {vr : Variant} : isSimple vr = true ↔ vr.details = .simple := by
  unfold isSimple
  split
  · exact ⟨fun _ => ‹_›, fun _ => rfl⟩
  · exact ⟨nofun, fun h => absurd h ‹_›⟩

theorem fieldsE_declared (h : fieldsE rec σ props req false fields = true) {p : Field} (hp : p ∈ fields) :
    props.any (fun q => q.1 == p.wire) = true := by
  rcases fieldsE_mem h p hp with ⟨_, hopn⟩ | ⟨q, hq, _⟩
  · cases hopn
  · have hk := List.find?_some hq
    exact List.any_eq_true.mpr ⟨q, List.mem_of_find?_eq_some hq, hk⟩

theorem untaggedE_get :
    ∀ {ss : List Schema} {vs : List Variant}, untaggedE rec d σ deny ss vs = true →
      ∀ (n : Nat) (v : Variant), vs[n]? = some v →
        ∃ s, ss[n]? = some s ∧ variantE rec (structE rec d σ) deny s v.details = true := by
  intro ss
  induction ss with
  | nil => intro vs h n v hv; cases vs with
    | nil => cases hv
    | cons => cases h
  | cons s ss ih =>
    intro vs h n v hv
    cases vs with
    | nil => cases h
    | cons w ws =>
      simp only [untaggedE, Bool.and_eq_true] at h
      cases n with
      | zero => cases hv; exact ⟨s, rfl, h.1⟩
      | succ m => exact ih h.2 m v hv

theorem encB_cases {rid : String → Option Id} {fc : Nat} {s : Schema} (h : encB d σ rid (fc + 1) s t = true) :
    s = .any ∨ (∃ k, s = .ref k ∧ rid k = some t) ∨ (∃ t', Wraps σ t t' ∧ encB d σ rid fc s t' = true) ∨
    ∃ det ed im, σ.get t = some ⟨det, ed, im⟩ ∧
      (encD (encB d σ rid fc) d σ s det = true ∨ ∃ s', singleBranch s = some s' ∧ encB d σ rid fc s' t = true) := by
  simp only [encB] at h
  split at h
  · exact .inl rfl
  · rename_i k
    rcases (Bool.or_eq_true ..).mp h with h | h
    · exact .inr (.inl ⟨k, rfl, eq_of_beq h⟩)
    · split at h
      · exact .inr (.inr (.inl ⟨_, .inl ⟨_, _, ‹_›⟩, h⟩))
      · exact .inr (.inr (.inl ⟨_, .inr ⟨_, _, _, _, ‹_›⟩, h⟩))
      · cases h
  · split at h
    · cases h
    · rename_i ent hg
      obtain ⟨det, ed, im⟩ := ent
      split at h
      · rename_i hd
        cases (hd : det = _)
        exact .inr (.inr (.inl ⟨_, .inr ⟨_, _, _, _, hg⟩, h⟩))
      · rename_i hd
        cases (hd : det = _)
        exact .inr (.inr (.inl ⟨_, .inl ⟨_, _, hg⟩, h⟩))
      · refine .inr (.inr (.inr ⟨det, ed, im, hg, ?_⟩))
        rcases (Bool.or_eq_true ..).mp h with h | h
        · exact .inl h
        · exact .inr ((Option.any_eq_true ..).mp h)

theorem struct_points
    (hrec : ∀ s' t' j' v' fd', rec s' t' = true → de x σ fd' t' j' = .ok v' → NF (validE vx d g s' j'))
    (he : structE rec d σ props req addl fields deny = true)
    (hde : deStruct x σ fd fields deny (.obj kvs) = .ok v) :
    requiredE d props kvs req = true ∧
    (∀ k s, (k, s) ∈ props → ∀ w, Json.lookup kvs k = some w →
      (w = .null ∧ req.contains k = false) ∨ NF (validE vx d g s w)) ∧
    (∀ k w, (k, w) ∈ kvs → props.any (fun p => p.1 == k) = false → NF (extraHere (validE vx d g) addl w)) := by
  obtain ⟨fd, rfl⟩ : ∃ n, fd = n + 1 := by
    cases fd with
    | zero => cases hde
    | succ n => exact ⟨n, rfl⟩
  rcases (Bool.or_eq_true ..).mp he with he | he
  · simp only [structPlainE, Bool.and_eq_true, Bool.not_eq_true'] at he
    obtain ⟨⟨⟨⟨⟨⟨hnf, -⟩, hndp⟩, haddl⟩, hall⟩, hfe⟩, hreq⟩ := he
    obtain ⟨hR, hM⟩ := deStruct_named hde fun p hp => ⟨hp, fun hpf =>
      Bool.false_ne_true (hnf ▸ List.any_eq_true.mpr ⟨p, hp, hpf ▸ beq_self_eq_true _⟩)⟩
    obtain ⟨h1, h2⟩ := struct_points_core hrec hndp hall hfe hreq hR hM
    refine ⟨h1, h2, fun k w hkw hnot => ?_⟩
    cases addl with
    | open_ => exact NF_true
    | schema sv => cases haddl
    | closed =>
      -- a closed struct read no member but its own, and those are all declared
      obtain ⟨p, hp, (hpw : p.wire = k)⟩ :=
        (C05.struct_object_enforced x σ fd fields deny kvs v hnf hde).2 haddl (k, w) hkw
      rw [← hpw, fieldsE_declared hfe hp] at hnot
      cases hnot
  · simp only [structFlatE, Bool.and_eq_true] at he
    obtain ⟨⟨⟨⟨⟨haddl, -⟩, hndp⟩, hall⟩, hfe⟩, hreq⟩ := he
    obtain ⟨hR, hM⟩ := deStruct_named hde fun p hp =>
      let h := List.mem_filter.mp hp; ⟨h.1, bne_iff_ne.mp h.2⟩
    obtain ⟨h1, h2⟩ := struct_points_core hrec hndp hall hfe hreq hR hM
    refine ⟨h1, h2, fun key w hkw hnot => ?_⟩
    split at haddl
    · rename_i sa
      split at haddl
      · rename_i e hflat
        split at haddl
        · rename_i k vt ed im hge
          -- no named member claims the entry (they are all declared): it is in the buffer, which the map reads
          have hbuf : (key, w) ∈ bufferOf fields kvs := by
            refine List.mem_filter.mpr ⟨hkw, ?_⟩
            rw [Bool.not_eq_true', List.any_eq_false]
            intro p hp hc
            obtain ⟨hpf, hpw⟩ := (Bool.and_eq_true ..).mp hc
            have := fieldsE_declared hfe (List.mem_filter.mpr ⟨hp, hpf⟩)
            rw [eq_of_beq hpw, hnot] at this
            cases this
          obtain ⟨fd', vv, hvv⟩ := deStruct_flat_map hflat hge hde (key, w) hbuf
          exact hrec sa vt w vv fd' ((Bool.and_eq_true ..).mp haddl).2 hvv
        · cases haddl
      · cases haddl
    · cases haddl

/-- **objects**: required members, closed objects, and the members' own schemas -/
theorem struct_sound
    (hrec : ∀ s' t' j' v' fd', rec s' t' = true → de x σ fd' t' j' = .ok v' → NF (validE vx d g s' j'))
    (he : structE rec d σ props req addl fields deny = true)
    (hde : deStruct x σ fd fields deny j = .ok v) :
    NF (validE vx d (g + 1) (.object props req addl) j) := by
  cases fd with
  | zero => cases hde
  | succ fd =>
    cases j with
    | obj kvs =>
      obtain ⟨hR, hD, hX⟩ := struct_points hrec he hde
      exact object_NF hR hD hX
    | arr xs => exact NF_true
    | _ =>
      -- anything but an object or an array is rejected, with or without flattened members
      all_goals
        have h : (if hasFlatten fields = true then .error .reject else .error .reject : Except E Val) = .ok v := hde
        split at h <;> cases h

theorem HR.mono {g' : Nat} (hr : HR x vx d σ rec g) (h : g' ≤ g) : HR x vx d σ rec g' :=
  fun n hn => hr n (Nat.le_trans hn h)

theorem variantE_sound (hr : HR x vx d σ rec g) {seqOk : Bool} {s : Schema} {dt : VDetails}
    (he : variantE rec (structE rec d σ) deny s dt = true)
    (hde : deVariantBody x σ fd dt deny seqOk j = .ok v) :
    NF (validE vx d g s j) := by
  cases fd with
  | zero => cases hde
  | succ fd =>
    cases g with
    | zero => exact NF_none
    | succ g =>
      have hm := hr g (Nat.le_succ g)
      unfold variantE at he
      split at he
      · simp only [deVariantBody] at hde
        split at hde
        · exact NF_true
        · cases hde
      · exact hr (g + 1) (Nat.le_refl _) _ _ j v fd he hde
      · simp only [deVariantBody] at hde
        split at hde
        · split at hde
          · exact tuple_sound (fun s t j v => hm s t j v fd) he ‹_›
          · cases hde
        · cases hde
      · simp only [deVariantBody] at hde
        split at hde
        · cases hde
        · exact struct_sound hm he hde
      · cases he

theorem option_sound
    (hrec : ∀ s' t' j' v' fd', rec s' t' = true → de x σ fd' t' j' = .ok v' → NF (validE vx d g s' j'))
    {s' : Schema} {t' : Id} (hg : σ.get t = some ⟨.option t', ed, im⟩)
    (he : rec s' t' = true) (hde : de x σ (fd + 1) t j = .ok v)
    (ss : List Schema) (hs : s' ∈ ss) (hn : Schema.null ∈ ss) :
    NF ((countV (fun s'' => validE vx d g s'' j) ss).map (fun n => decide (0 < n))) := by
  rcases de_option_cases hg hde with rfl | ⟨v', hv'⟩
  · exact countV_NF hn (admitsNull_valid 1 .null rfl g)
  · exact countV_NF hs (hrec s' t' j v' fd he hv')

theorem untagged_sound (hr : HR x vx d σ rec g)
    (hget : σ.get t = some ⟨.enum nm .untagged variants deny dv bes, ed, im⟩)
    (he : untaggedE rec d σ deny ss variants = true)
    (hde : de x σ (fd + 1) t j = .ok v) :
    NF ((countV (fun s' => validE vx d g s' j) ss).map (fun n => decide (0 < n))) := by
  simp only [de, hget] at hde
  obtain ⟨n, a, ha, hF⟩ := firstOk_ok hde
  split at hF
  · obtain ⟨s, hs, hve⟩ := untaggedE_get he n a ha
    exact countV_NF (List.mem_of_getElem? hs) (variantE_sound hr hve ‹_›)
  · cases hF

theorem branch_NF {B : Variant → Schema → Bool} (he : variants.all (fun vr => ss.any (B vr)) = true)
    {vr : Variant} (hvr : vr ∈ variants) (h : ∀ s, B vr s = true → NF (validE vx d g s j)) :
    NF ((countV (fun s' => validE vx d g s' j) ss).map (fun n => decide (0 < n))) := by
  obtain ⟨s, hs, hb⟩ := List.any_eq_true.mp (List.all_eq_true.mp he vr hvr)
  exact countV_NF hs (h s hb)

theorem external_sound (hr : HR x vx d σ rec g)
    (hget : σ.get t = some ⟨.enum nm .external variants deny dv bes, ed, im⟩)
    (he : variants.all (fun vr => ss.any (extBranchE rec d σ deny vr)) = true)
    (hde : de x σ (fd + 1) t j = .ok v) :
    NF ((countV (fun s' => validE vx d g s' j) ss).map (fun n => decide (0 < n))) := by
  obtain ⟨i, vr, -, hvi, hj⟩ := de_external hget hde
  refine branch_NF he (List.mem_of_getElem? hvi) fun s hb => ?_
  unfold extBranchE at hb
  split at hb
  · -- an enumeration of strings stands for data-less variants only
    obtain ⟨hsimple, hm⟩ := (Bool.and_eq_true ..).mp hb
    rcases hj with ⟨rfl, _⟩ | ⟨body, rest, p, rfl, hall, hp, -⟩
    · exact enum_str_NF hm g
    · cases deVariantBody_simple (isSimple_iff.1 hsimple ▸ hp)
      exact enum_map_NF hall hm g
  · rename_i k sk k' addl
    simp only [Bool.and_eq_true, Bool.not_eq_true', beq_iff_eq] at hb
    obtain ⟨⟨⟨hns, rfl⟩, rfl⟩, hve⟩ := hb
    rcases hj with ⟨_, hd, _⟩ | ⟨body, rest, p, rfl, hall, hp, -⟩
    · rw [isSimple_iff.2 hd] at hns
      cases hns
    · refine object_NF (List.all_eq_true.mpr ?_) ?_ ?_
      · intro r hr
        cases List.mem_singleton.mp hr
        simp only [Json.lookup, ↓reduceIte, Option.isSome_some, Bool.true_or]
      · intro k1 s1 hks w hw
        cases List.mem_singleton.mp hks
        simp only [Json.lookup, ↓reduceIte, Option.some.injEq] at hw
        exact .inr (hw ▸ variantE_sound (hr.mono (Nat.sub_le g 1)) hve hp)
      · intro k1 w1 hkw hnot
        -- every member carries the variant's name, which is declared
        have : k1 = vr.wire := by
          rcases List.mem_cons.mp hkw with h | h
          · cases h; rfl
          · exact eq_of_beq (List.all_eq_true.mp hall _ h)
        simp only [this, List.any_cons, beq_self_eq_true, Bool.true_or] at hnot
        cases hnot
  · cases hb

theorem tag_member {tg w : String} (hnd : nodupB (props.map (·.1)) = true)
    (hfind : props.find? (fun p => p.1 == tg) = some (tg, .enumVals [.str w]))
    (hlk : Json.lookup kvs tg = some (.str w)) {s1 : Schema} (hks : (tg, s1) ∈ props) {w1 : Json}
    (hw1 : Json.lookup kvs tg = some w1) : NF (validE vx d g s1 w1) := by
  have := nodupB_find_gen (fun (q : String × Schema) => q.1) hnd _ hks
  rw [hfind] at this
  cases this
  rw [hlk] at hw1
  cases hw1
  exact enum_str_NF (List.any_eq_true.mpr ⟨_, .head _, (beq_self_eq_true w : (w == w) = true)⟩) g

theorem internal_sound {tg : String} (hr : HR x vx d σ rec g)
    (hget : σ.get t = some ⟨.enum nm (.internal tg) variants deny dv bes, ed, im⟩)
    (he : variants.all (fun vr => ss.any (intBranchE rec d σ deny tg vr)) = true)
    (hde : de x σ (fd + 1) t j = .ok v) :
    NF ((countV (fun s' => validE vx d g s' j) ss).map (fun n => decide (0 < n))) := by
  obtain ⟨kvs, i, vr, rfl, hlk, -, hvi, hdet⟩ := de_internal hget hde
  refine branch_NF he (List.mem_of_getElem? hvi) fun s hb => ?_
  unfold intBranchE at hb
  split at hb
  · rename_i props req addl
    split at hb
    · rename_i tg' w hfind
      have htg := List.find?_some hfind
      cases (eq_of_beq htg : tg' = tg)
      simp only [Bool.and_eq_true, beq_iff_eq] at hb
      obtain ⟨⟨rfl, hnd⟩, hb⟩ := hb
      have htag : ∀ s1, (tg, s1) ∈ props → ∀ w1, Json.lookup kvs tg = some w1 → NF (validE vx d (g - 1) s1 w1) :=
        fun s1 hks w1 hw1 => tag_member hnd hfind hlk hks hw1
      rcases hdet with ⟨hd, -⟩ | ⟨ps, p, hd, hp, -⟩ | ⟨t', _, hd, _⟩ <;> rw [hd] at hb
      · simp only [Bool.and_eq_true, List.all_eq_true, beq_iff_eq] at hb
        obtain ⟨⟨hpall, hrall⟩, hopen⟩ := hb
        refine object_NF (List.all_eq_true.mpr fun r hr' => ?_) (fun k s1 hks w1 hw1 => ?_) (fun k w1 _ _ => ?_)
        · rw [hrall r hr', hlk]; rfl
        · cases (hpall (k, s1) hks : k = tg)
          exact .inr (htag s1 hks w1 hw1)
        · cases addl <;> first | exact NF_true | cases hopen
      · obtain ⟨hR, hD, hX⟩ := struct_points (hr (g - 1) (Nat.sub_le g 1)) hb hp
        refine object_NF (List.all_eq_true.mpr fun r hr' => ?_) (fun k s1 hks w1 hw1 => ?_) (fun k w1 hkw hnot => ?_)
        · by_cases hrt : r = tg
          · rw [hrt, hlk]; rfl
          · have := List.all_eq_true.mp hR r (List.mem_filter.mpr ⟨hr', bne_iff_ne.mpr hrt⟩)
            rwa [Json.lookup_erase_ne hrt, find_filter_ne hrt] at this
        · by_cases hk : k = tg
          · cases hk
            exact .inr (htag s1 hks w1 hw1)
          · rcases hD k s1 (List.mem_filter.mpr ⟨hks, bne_iff_ne.mpr hk⟩) w1 (by rwa [Json.lookup_erase_ne hk]) with
              ⟨hn, hc⟩ | hn
            · refine .inl ⟨hn, ?_⟩
              rw [← hc]
              simp only [List.contains_eq_mem, List.mem_filter, bne_iff_ne, ne_eq, hk, not_false_eq_true, and_true]
            · exact .inr hn
        · have hk : k ≠ tg := fun hk => by
            rw [hk, List.any_eq_true.mpr ⟨_, List.mem_of_find?_eq_some hfind, htg⟩] at hnot
            cases hnot
          exact hX k w1 (List.mem_filter.mpr ⟨hkw, decide_eq_true hk⟩)
            (List.any_eq_false.mpr fun q hq => List.any_eq_false.mp hnot q (List.mem_filter.mp hq).1)
      · cases hb
    · cases hb
  · cases hb

end

theorem adjacent_sound {x : Serde.Ext} {vx : Validate.Ext} {d : Doc} {σ : Space} {g : Nat} {rec : Schema → Id → Bool}
    (hr : HR x vx d σ rec g) {ss : List Schema} {nm tg ct : String} {variants : List Variant} {deny : Bool}
    {dv : Option Json} {bes : List Bespoke} {t : Id} {ed : List String} {im : List Impl}
    (hget : σ.get t = some ⟨.enum nm (.adjacent tg ct) variants deny dv bes, ed, im⟩)
    (he : variants.all (fun vr => ss.any (adjBranchE rec d σ deny tg ct vr)) = true)
    {fd : Nat} {j : Json} {v : Val} (hde : de x σ (fd + 1) t j = .ok v) :
    NF ((countV (fun s' => validE vx d g s' j) ss).map (fun n => decide (0 < n))) := by
  obtain ⟨kvs, i, vr, rfl, hdeny, hlk, -, hvi, hct⟩ := de_adjacent hget hde
  refine branch_NF he (List.mem_of_getElem? hvi) fun s hb => ?_
  unfold adjBranchE at hb
  split at hb
  · rename_i props req addl
    split at hb
    · rename_i tg' w hfind
      have htg := List.find?_some hfind
      cases (eq_of_beq htg : tg' = tg)
      simp only [Bool.and_eq_true, beq_iff_eq, bne_iff_ne, ne_eq, List.all_eq_true, Bool.or_eq_true] at hb
      obtain ⟨⟨⟨⟨⟨⟨rfl, hne⟩, hnd⟩, hpall⟩, hrall⟩, haddl⟩, hcond⟩ := hb
      have htag : ∀ s1, (tg, s1) ∈ props → ∀ w1, Json.lookup kvs tg = some w1 → NF (validE vx d (g - 1) s1 w1) :=
        fun s1 hks w1 hw1 => tag_member hnd hfind hlk hks hw1
      split at hcond
      · -- no content property: a data-less variant, in an open object
        rename_i hfc
        simp only [Bool.and_eq_true, Bool.not_eq_true'] at hcond
        obtain ⟨⟨-, hopen⟩, hnreq⟩ := hcond
        refine object_NF (List.all_eq_true.mpr fun r hr' => ?_) (fun k s1 hks w1 hw1 => ?_) (fun k w1 _ _ => ?_)
        · rcases hrall r hr' with rfl | rfl
          · rw [hlk]; rfl
          · exact absurd ((List.elem_eq_true_of_mem hr').symm.trans hnreq) (by decide)
        · rcases (hpall (k, s1) hks : k = tg ∨ k = ct) with rfl | rfl
          · exact .inr (htag s1 hks w1 hw1)
          · exact absurd (beq_self_eq_true k) (List.find?_eq_none.mp hfc (k, s1) hks)
        · cases addl <;> first | exact NF_true | cases hopen
      · rename_i ct' sc hfc
        have hc := List.find?_some hfc
        cases (eq_of_beq hc : ct' = ct)
        refine object_NF (List.all_eq_true.mpr fun r hr' => ?_) (fun k s1 hks w1 hw1 => ?_) (fun k w1 hkw hnot => ?_)
        · rcases hrall r hr' with rfl | rfl
          · rw [hlk]; rfl
          · cases hl : Json.lookup kvs r with
            | some body => rfl
            | none =>
              -- the content may be missing only where its schema admits `null`
              rw [hl] at hct
              simp only [Option.isSome_none, Bool.false_or, hfc]
              rcases hct with ⟨hd, -⟩ | ⟨t', hd, hopt, -⟩
              · rw [isSimple_iff.2 hd] at hcond
                exact hcond
              · have hns : isSimple vr = false := by rw [isSimple, hd]
                simp only [hns, hd, hopt, List.elem_eq_true_of_mem hr', Bool.false_eq_true, ↓reduceIte, Bool.not_true,
                  Bool.false_or, Bool.and_eq_true] at hcond
                exact hcond.2
        · rcases (hpall (k, s1) hks : k = tg ∨ k = ct) with rfl | rfl
          · exact .inr (htag s1 hks w1 hw1)
          · have := nodupB_find_gen (fun (q : String × Schema) => q.1) hnd _ hks
            rw [hfc] at this
            cases this
            rw [hw1] at hct
            right
            cases hs : isSimple vr with
            | true =>
              -- a data-less variant reads `null`, which the content schema admits
              have : w1 = .null := by
                rcases hct with ⟨_, h, -⟩ | ⟨hns, -⟩
                · exact h
                · exact absurd (isSimple_iff.1 hs) hns
              rw [hs] at hcond
              exact this ▸ admitsNull_valid _ _ hcond (g - 1)
            | false =>
              rw [hs] at hcond
              rcases hct with ⟨hd, -⟩ | ⟨-, p, hp, -⟩
              · rw [isSimple_iff.2 hd] at hs
                cases hs
              · exact variantE_sound (hr.mono (Nat.sub_le g 1)) ((Bool.and_eq_true ..).mp hcond).1 hp
        · cases addl with
          | open_ => exact NF_true
          | schema sv => cases haddl
          | closed =>
            -- a closed union read the tag and the content only, and both are declared
            have : props.any (fun p => p.1 == k) = true := by
              rcases hdeny haddl (k, w1) hkw with h | h
              · exact List.any_eq_true.mpr ⟨_, List.mem_of_find?_eq_some hfind, beq_iff_eq.mpr h.symm⟩
              · exact List.any_eq_true.mpr ⟨_, List.mem_of_find?_eq_some hfc, beq_iff_eq.mpr h.symm⟩
            rw [this] at hnot
            cases hnot
    · cases hb
  · cases hb

theorem encD_sound {x : Serde.Ext} {vx : Validate.Ext} (hreg : ∀ p s, x.regex p s = vx.regex p s)
    {d : Doc} {σ : Space} {g : Nat} {rec : Schema → Id → Bool}
    (hr : HR x vx d σ rec g)
    {s : Schema} {t : Id} {det : Details} {ed : List String} {im : List Impl} (hget : σ.get t = some ⟨det, ed, im⟩)
    (he : encD rec d σ s det = true) {fd : Nat} {j : Json} {v : Val} (hde : de x σ (fd + 1) t j = .ok v) :
    NF (validE vx d (g + 1) s j) := by
  have hrec : ∀ s' t' j' v', rec s' t' = true → de x σ fd t' j' = .ok v' → NF (validE vx d g s' j') :=
    fun s' t' j' v' => hr g (Nat.le_refl g) s' t' j' v' fd
  have hscalar := C05.scalar_type_enforced x σ fd t _ hget j v hde
  -- the arms of `encD`, in its order
  unfold encD at he
  split at he
  · cases hscalar.2.2.1 rfl
    exact NF_true
  · cases hscalar.2.2.1 rfl
    exact admitsNull_valid _ _ he (g + 1)
  · obtain ⟨b, rfl⟩ := hscalar.2.1 rfl
    exact NF_true
  · simp only [de, hget] at hde
    split at hde <;> first | exact NF_true | cases hde
  · obtain ⟨n, ty, rfl, -⟩ := hscalar.2.2.2 _ rfl
    exact NF_true
  · obtain ⟨n, ty, rfl, -⟩ := hscalar.2.2.2 _ rfl
    exact NF_true
  · obtain ⟨w, rfl⟩ := hscalar.1 rfl
    exact NF_some.2 (strEnc_sound hreg he rfl)
  · obtain ⟨hin, hse⟩ := (Bool.and_eq_true ..).mp he
    split at hin
    · obtain ⟨w, rfl, hc⟩ := de_string_newtype hget ‹_› hde
      exact NF_some.2 (strEnc_sound hreg hse hc)
    · cases hin
  · obtain ⟨hsimple, hm⟩ := (Bool.and_eq_true ..).mp he
    obtain ⟨i, vr, -, hvi, hj⟩ := de_external hget hde
    have hvr := List.mem_of_getElem? hvi
    have hm := List.all_eq_true.mp hm vr hvr
    rcases hj with ⟨rfl, _⟩ | ⟨body, rest, p, rfl, hall, hp, -⟩
    · exact enum_str_NF hm _
    · cases deVariantBody_simple (isSimple_iff.1 (List.all_eq_true.mp hsimple vr hvr) ▸ hp)
      exact enum_map_NF hall hm _
  · simp only [de, hget] at hde
    split at hde
    · split at hde
      · split at hde
        · exact array_sound (fun y v' => hrec _ _ y v' he) ‹_›
        · cases hde
      · cases hde
    · cases hde
  · simp only [de, hget] at hde
    split at hde
    · split at hde
      · exact array_sound (fun y v' => hrec _ _ y v' he) ‹_›
      · cases hde
    · cases hde
  · simp only [de, hget] at hde
    split at hde
    · split at hde
      · exact array_sound (fun y v' => hrec _ _ y v' he) ‹_›
      · cases hde
    · cases hde
  · obtain ⟨kvs, rfl, hm⟩ := de_map hget hde
    exact object_NF rfl nofun fun k w hkw _ =>
      let ⟨vv, hvv⟩ := hm (k, w) hkw; hrec _ _ w vv ((Bool.and_eq_true ..).mp he).2 hvv
  · obtain ⟨kvs, rfl, -⟩ := de_map hget hde
    exact object_NF rfl nofun fun _ _ _ _ => NF_true
  · simp only [de, hget] at hde
    split at hde
    · split at hde
      · exact tuple_sound hrec he ‹_›
      · cases hde
    · cases hde
  · simp only [de, hget] at hde
    exact struct_sound (hr g (Nat.le_refl g)) he hde
  · exact option_sound (hr g (Nat.le_refl g)) hget he hde _ (.head _) (.tail _ (.head _))
  · exact option_sound (hr g (Nat.le_refl g)) hget he hde _ (.tail _ (.head _)) (.head _)
  · exact option_sound (hr g (Nat.le_refl g)) hget he hde _ (.head _) (.tail _ (.head _))
  · exact option_sound (hr g (Nat.le_refl g)) hget he hde _ (.tail _ (.head _)) (.head _)
  · exact external_sound hr hget he hde
  · exact external_sound hr hget he hde
  · exact internal_sound hr hget he hde
  · exact internal_sound hr hget he hde
  · exact adjacent_sound hr hget he hde
  · exact adjacent_sound hr hget he hde
  · exact untagged_sound hr hget he hde
  · exact untagged_sound hr hget he hde
  · cases he

/-- **C05 at the level of the schema.** For every document, IR, registration of the definitions, schema, type, JSON
    document and all fuels: if every definition is enforced by its registered type and `encB` holds of `(S, τ)`, then
    whatever `τ`'s `Deserialize` accepts is not invalid under the enforced projection of `S`. -/
theorem enc_sound {x : Serde.Ext} {vx : Validate.Ext} (hreg : ∀ p s, x.regex p s = vx.regex p s)
    {d : Doc} {σ : Space} (rid : String → Option Id) (hall : AllEnc σ rid d)
    (hrid : ∀ k t, rid k = some t → ∃ s, d.get k = some s) :
    ∀ (g fc : Nat) (s : Schema) (t : Id) (j : Json) (v : Val) (fd : Nat),
      encB d σ rid fc s t = true → de x σ fd t j = .ok v → NF (validE vx d g s j) := by
  -- strong induction on the validity fuel (a `$ref` unfolds the definition), inside it on the fuel of `encB`
  intro g
  induction g using Nat.strongRecOn with
  | _ g ihg =>
    intro fc
    induction fc with
    | zero => intro s t j v fd hc; cases hc
    | succ fc ihc =>
      intro s t j v fd hc hde
      cases g with
      | zero => exact NF_none
      | succ g =>
        cases fd with
        | zero => cases hde
        | succ fd =>
          rcases encB_cases hc with rfl | ⟨k, rfl, hk⟩ | ⟨t', ht, hc'⟩ | ⟨det, ed, im, hg, hc' | ⟨s', hsb, hc'⟩⟩
          · exact NF_true
          · -- validity unfolds the definition, which its registered type enforces
            obtain ⟨s', hg⟩ := hrid k t hk
            obtain ⟨t', fc', hr, hc'⟩ := hall k s' hg
            cases hk.symm.trans hr
            rw [validE_ref, hg]
            exact ihg g (Nat.lt_succ_self g) fc' s' t j v _ hc' hde
          · exact ihc s t' j v fd hc' (de_wraps ht hde)
          · exact encD_sound hreg (fun g' hg' => ihg g' (Nat.lt_succ_of_le hg') fc) hg hc' hde
          · exact singleBranch_NF hsb (ihg g (Nat.lt_succ_self g) fc s' t j v _ hc' hde)

/-! ## non-vacuity and a counterexample

A recursive definition `Node = {next?: Node, v: integer, tag: string (pattern, 1..3 chars)}`, closed, read by a struct
with `deny_unknown_fields`, an optional boxed self reference and a constrained newtype: `encB` holds; dropping the
pattern from the newtype (what a conversion that loses the constraint would produce) makes it false. -/
def exDoc : Doc := { defs := [("Node", .object [("next", .ref "Node"), ("tag", .string (some 1) (some 3) (some "^[a-z]+$")),
  ("v", .integer none none)] ["v", "tag"] .closed)] }
def exSpace : Space := { entries := [
  (1, ⟨.struct "Node" [⟨"next", .none, .optional, 3⟩, ⟨"tag", .none, .required, 5⟩, ⟨"v", .none, .required, 2⟩] true none, [], []⟩),
  (2, ⟨.integer "i64", [], []⟩),
  (3, ⟨.option 4, [], []⟩),
  (4, ⟨.box 1, [], []⟩),
  (5, ⟨.newtype "NodeTag" 6 (.string (some 3) (some 1) (some "^[a-z]+$")) none, [], []⟩),
  (6, ⟨.string, [], []⟩)] }
def exSpaceLost : Space := { entries := exSpace.entries.map fun e =>
  if e.1 == 5 then (5, ⟨.newtype "NodeTag" 6 (.string (some 3) (some 1) none) none, [], []⟩) else e }
def exRid (k : String) : Option Id := if k = "Node" then some 1 else none
def exNode : Schema := .object [("next", .ref "Node"), ("tag", .string (some 1) (some 3) (some "^[a-z]+$")),
  ("v", .integer none none)] ["v", "tag"] .closed

example : encB exDoc exSpace exRid 6 exNode 1 = true := by decide +kernel
example : encB exDoc exSpaceLost exRid 6 exNode 1 = false := by decide +kernel

end TypifyModel.C05E
