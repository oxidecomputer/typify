import TypifyModel.Model.Tagging
/-! What the tagging detection of `enums.rs` establishes, for every list of subschemas (`Tagging.*` is tied to the source by the
    M0 correspondence `tvh_tag` vs `drv_tag`).

    * `intTag_sound`: the tag of an internally tagged enum is, in EVERY subschema, a required member of a plain object pinned
      to one string, and the pinned strings are pairwise different — so the tag value of an instance selects at most one variant.
    * `internal_panics_only_on_assert`: with a tag chosen, the `unreachable!()` and the `unwrap()`s of the variant loop are
      never reached; the only panic left is `assert_eq!(validation.required.len(), 1)`.
    * `external_names_nodup`: the variant names of an externally tagged enum are pairwise different.
    * `adjacent_sound`: tag and content are different members; the tag is pinned in every subschema and no subschema has a
      member besides the two.
    * `tagged_branches_exclusive`: under any reading of validity that respects `required`, `properties` and one-string
      enumerations, no OBJECT document satisfies two subschemas of an internally tagged union. -/
namespace TypifyModel.Tagging
open TypifyModel TypifyModel.Excl

/-- a statement about the members of a zip, read position by position -/
theorem forall_mem_zip {α β : Type} {l : List α} {m : List β} (P : α → β → Prop) :
    (∀ p ∈ l.zip m, P p.1 p.2) ↔ ∀ (i : Nat) (hl : i < l.length) (hm : i < m.length), P l[i] m[i] := by
  constructor
  · intro h i hl hm
    have hi : i < (l.zip m).length := by simp [List.length_zip]; omega
    simpa [List.getElem_zip] using h _ (List.getElem_mem hi)
  · intro h p hp
    obtain ⟨i, hi, rfl⟩ := List.mem_iff_getElem.mp hp
    rw [List.length_zip] at hi
    simpa [List.getElem_zip] using h i (by omega) (by omega)

theorem lookupS_mem {b : List (String × String)} {k v : String} (h : lookupS b k = some v) : (k, v) ∈ b := by
  induction b with
  | nil => cases h
  | cons kv r ih =>
    unfold lookupS at h
    split at h
    · rename_i hk
      cases h
      exact eq_of_beq hk ▸ List.mem_cons_self
    · exact List.mem_cons_of_mem _ (ih h)

/-- what survives the `reduce`: an entry of the first subschema, extended by one value per further subschema, and the
    values stay pairwise different -/
theorem foldl_intStep_mem (r : List (List (String × String))) :
    ∀ (acc : List (String × List String)) (k : String) (vs : List String),
      (k, vs) ∈ r.foldl intStep acc →
      ∃ vs0 ws, (k, vs0) ∈ acc ∧ vs = vs0 ++ ws ∧ r.map (fun b => lookupS b k) = ws.map some ∧ (vs0.Nodup → vs.Nodup) := by
  induction r with
  | nil => intro acc k vs h; exact ⟨vs, [], h, by simp, by simp, id⟩
  | cons b r ih =>
    intro acc k vs h
    simp only [List.foldl_cons] at h
    obtain ⟨vs1, ws, hm, hvs, hmap, hnd⟩ := ih _ _ _ h
    unfold intStep at hm
    rw [List.mem_filterMap] at hm
    obtain ⟨⟨k0, vs0⟩, hacc, hstep⟩ := hm
    simp only at hstep
    cases hl : lookupS b k0 with
    | none => rw [hl] at hstep; simp at hstep
    | some v =>
      rw [hl] at hstep
      simp only at hstep
      split at hstep
      · simp at hstep
      · rename_i hnc
        simp only [Option.some.injEq, Prod.mk.injEq] at hstep
        obtain ⟨hk, hv⟩ := hstep
        subst hk hv
        refine ⟨vs0, v :: ws, hacc, by simp [hvs], by simp [hl, hmap], ?_⟩
        intro h0
        apply hnd
        have : v ∉ vs0 := by simpa using hnc
        exact List.nodup_append.mpr ⟨h0, by simp, by
          intro a ha b hb
          have : b = v := by simpa using hb
          subst this
          intro hab; subst hab; exact this ha⟩

/-- the members the reduce keeps, read off the whole list of subschemas -/
theorem intReduce_mem {bs : List (List (String × String))} {acc : List (String × List String)} {k : String} {vs : List String}
    (h : intReduce bs = some acc) (hm : (k, vs) ∈ acc) :
    vs.length = bs.length ∧ vs.Nodup ∧ ∀ p ∈ bs.zip vs, (k, p.2) ∈ p.1 := by
  cases bs with
  | nil => cases h
  | cons b r =>
    cases h
    obtain ⟨vs0, ws, h0, rfl, hmap, hnd⟩ := foldl_intStep_mem r _ _ _ hm
    obtain ⟨⟨k', v0⟩, hb, he⟩ := List.mem_map.mp h0
    cases he
    have hlen : ws.length = r.length := by simpa using (congrArg List.length hmap).symm
    refine ⟨by simp [hlen], hnd (by simp), ?_⟩
    simp only [List.singleton_append, List.zip_cons_cons, List.forall_mem_cons]
    refine ⟨hb, (forall_mem_zip fun b w => (k', w) ∈ b).mpr fun i hr hw => lookupS_mem ?_⟩
    simpa [hr, hw] using congrArg (·[i]?) hmap

theorem least_mem : ∀ {l : List String} {m : String}, least l = some m → m ∈ l := by
  intro l
  induction l with
  | nil => intro m h; cases h
  | cons a r ih =>
    intro m h
    unfold least at h
    split at h
    · cases h; exact List.mem_cons_self
    · rename_i b hr
      split at h <;> cases h
      · exact List.mem_cons_of_mem _ (ih hr)
      · exact List.mem_cons_self

/-- a pinned required member of a subschema, as `maybe_internally_tagged_enum` sees it -/
def Pinned (f : Nat) (s : Json) (t v : String) : Prop :=
  ∃ o rq ps sch, getObject f s = some o ∧ reqOf o = some rq ∧ propsOf o = some ps ∧
    rq.contains t = true ∧ (t, sch) ∈ ps ∧ constStr sch = some v

theorem intBranch_mem {f : Nat} {s : Json} {t v : String} (h : (t, v) ∈ intBranch f s) : Pinned f s t v := by
  unfold intBranch at h
  split at h
  next o ho =>
    split at h
    next rq ps hr hp =>
      obtain ⟨⟨k, sch⟩, hmem, hf⟩ := List.mem_filterMap.mp h
      split at hf
      next hc =>
        cases hcs : constStr sch with
        | none => simp [hcs] at hf
        | some w =>
          obtain ⟨rfl, rfl⟩ : k = t ∧ w = v := by simpa [hcs] using hf
          exact ⟨o, rq, ps, sch, ho, hr, hp, hc, hmem, hcs⟩
      next => cases hf
    next => cases h
  next => cases h

/-- **the tag of an internally tagged enum**: pinned and required in every subschema, the pinned strings pairwise different -/
theorem intTag_sound {f : Nat} {ss : List Json} {t : String} (h : intTag f ss = some t) :
    ∃ vs : List String, vs.length = ss.length ∧ vs.Nodup ∧ ∀ p ∈ ss.zip vs, Pinned f p.1 t p.2 := by
  unfold intTag at h
  split at h
  next => cases h
  next acc hr =>
    obtain ⟨⟨k, vs⟩, hacc, rfl⟩ := List.mem_map.mp (least_mem h)
    obtain ⟨hlen, hnd, hall⟩ := intReduce_mem hr hacc
    rw [List.length_map] at hlen
    refine ⟨vs, hlen, hnd, (forall_mem_zip fun s v => Pinned f s k v).mpr fun i hs hv => intBranch_mem ?_⟩
    have := (forall_mem_zip fun b v => (k, v) ∈ b).mp hall i (by simpa using hs) hv
    rwa [List.getElem_map] at this

/-- a concrete pair on which a tag is found (the hypotheses are satisfiable) -/
example :
    intTag 8 [.obj [("properties", .obj [("t", .obj [("enum", .arr [.str "x"])]), ("v", .obj [("type", .str "integer")])]),
                    ("required", .arr [.str "t"]), ("type", .str "object")],
              .obj [("properties", .obj [("t", .obj [("const", .str "y"), ("type", .str "string")])]),
                    ("required", .arr [.str "t"]), ("type", .str "object")]] = some "t" := by decide +kernel

theorem seqR_panic {α β : Type} {g : α → R (List β)} : ∀ {l : List α}, seqR g l = .panic → ∃ a ∈ l, g a = .panic := by
  intro l
  induction l with
  | nil => intro h; cases h
  | cons a r ih =>
    intro h
    unfold seqR at h
    split at h
    next hg => exact ⟨a, List.mem_cons_self, hg⟩
    next => cases h
    next =>
      split at h
      next hs =>
        obtain ⟨b, hb, hgb⟩ := ih hs
        exact ⟨b, List.mem_cons_of_mem _ hb, hgb⟩
      next => cases h
      next => cases h

theorem lookup_of_mem_nodup {ps : List (String × Json)} {k : String} {s : Json} (hm : (k, s) ∈ ps) :
    ∃ s', Json.lookup ps k = some s' := by
  induction ps with
  | nil => simp at hm
  | cons kv r ih =>
    obtain ⟨k', v'⟩ := kv
    unfold Json.lookup
    by_cases hk : k' = k
    · simp [hk]
    · simp only [hk, if_false]
      rcases List.mem_cons.mp hm with h | h
      · simp only [Prod.mk.injEq] at h; exact absurd h.1.symm hk
      · exact ih h

/-- with distinct property names, `lookup` finds the declared schema -/
theorem lookup_eq_of_mem {ps : List (String × Json)} {k : String} {s : Json} (hnd : (ps.map (·.1)).Nodup) (hm : (k, s) ∈ ps) :
    Json.lookup ps k = some s := by
  induction ps with
  | nil => simp at hm
  | cons kv r ih =>
    obtain ⟨k', v'⟩ := kv
    simp only [List.map_cons, List.nodup_cons] at hnd
    unfold Json.lookup
    rcases List.mem_cons.mp hm with h | h
    · simp only [Prod.mk.injEq] at h; simp [h.1, h.2]
    · have : k' ≠ k := by
        intro hk; subst hk
        exact hnd.1 (List.mem_map.mpr ⟨(k', s), h, rfl⟩)
      simp only [this, if_false]
      exact ih hnd.2 h

/-- property names are distinct in every object schemars hands over (a `BTreeMap`); the hypothesis of the next theorems -/
def PropsDistinct (f : Nat) (s : Json) : Prop :=
  ∀ o ps, getObject f s = some o → propsOf o = some ps → (ps.map (·.1)).Nodup

/-- **no `unreachable!()` / `unwrap()` panic**: once a tag is chosen the variant loop can only fail the
    `assert_eq!(validation.required.len(), 1)` of a subschema with a single declared member -/
theorem internal_panics_only_on_assert {f : Nat} {ss : List Json} (hd : ∀ s ∈ ss, PropsDistinct f s)
    (h : internal f ss = .panic) :
    ∃ s ∈ ss, ∃ o rq ps, getObject f s = some o ∧ reqOf o = some rq ∧ propsOf o = some ps ∧ ps.length = 1 ∧ rq.length ≠ 1 := by
  unfold internal at h
  split at h
  next => cases h
  next t ht =>
    split at h
    next => cases h
    next => cases h
    next hs =>
      obtain ⟨s, hmem, hp⟩ := seqR_panic hs
      obtain ⟨vs, hlen, _, hall⟩ := intTag_sound ht
      -- the pinned value of this subschema
      obtain ⟨i, hi, rfl⟩ := List.mem_iff_getElem.mp hmem
      obtain ⟨o, rq, ps, sch, ho, hr, hpp, _, hmemp, hcs⟩ := (forall_mem_zip (Pinned f · t ·)).mp hall i hi (hlen ▸ hi)
      have hlk := lookup_eq_of_mem (hd _ hmem o ps ho hpp) hmemp
      refine ⟨_, hmem, o, rq, ps, ho, hr, hpp, ?_⟩
      -- with the tag found and pinned only the `assert_eq!` arm of `intVariant` answers `panic`
      unfold intVariant at hp
      simp only [ho, hr, hpp, hlk, Option.bind_some, hcs] at hp
      split at hp
      next h1 =>
        split at hp
        next => cases hp
        next h2 => exact ⟨by simpa using h1, by simpa using h2⟩
      next => cases hp

theorem eraseDups_length_le : ∀ (l : List String), l.eraseDups.length ≤ l.length
  | [] => Nat.le_refl _
  | a :: r => by
    have := eraseDups_length_le (r.filter (fun b => !b == a))
    have := List.length_filter_le (fun b => !b == a) r
    simp only [List.eraseDups_cons, List.length_cons]; omega
termination_by l => l.length
decreasing_by exact Nat.lt_succ_of_le (List.length_filter_le _ _)

theorem eraseDups_length_nodup : ∀ (l : List String), l.eraseDups.length = l.length → l.Nodup
  | [], _ => List.nodup_nil
  | a :: r, h => by
    rw [List.eraseDups_cons] at h
    -- nothing was filtered out, so `a` does not occur in `r`
    have hle := eraseDups_length_le (r.filter (fun b => !b == a))
    have hfr : r.filter (fun b => !b == a) = r :=
      List.Sublist.eq_of_length_le List.filter_sublist (by simp only [List.length_cons] at h; omega)
    have hnot : a ∉ r := fun ha => by simpa using List.filter_eq_self.mp hfr a ha
    rw [hfr] at h
    exact List.nodup_cons.mpr ⟨hnot, eraseDups_length_nodup r (by simpa using h)⟩

/-- **the variant names of an externally tagged enum are pairwise different** -/
theorem external_names_nodup {f : Nat} {ss : List Json} {vs : List Var} (h : external f ss = .yes vs) : (names vs).Nodup := by
  unfold external at h
  split at h
  next ws _ =>
    split at h
    next hl =>
      cases h
      refine eraseDups_length_nodup _ ?_
      simpa [names] using hl
    next => cases h
  next hr => exact absurd h (hr vs)

/-- a reading of "document `d` satisfies schema `s`" that respects the keywords the detection relies on: an object document
    that satisfies a plain object schema has every required, declared member, and the member satisfies its declaration; a
    document that satisfies a one-string enumeration / constant is that string. (Draft-07 validity has both properties. A
    typeless `{properties, required}` schema is satisfied by every NON-object document too, which is why the law speaks of
    object documents only: the detection reads such a schema as an object, see DESIGN 0.5 `typeless_struct`.) -/
structure Reading where
  sat : Json → Json → Prop
  member : ∀ {f s o rq ps kvs k sch}, getObject f s = some o → reqOf o = some rq → propsOf o = some ps →
    rq.contains k = true → (k, sch) ∈ ps → sat s (.obj kvs) → ∃ w, Json.lookup kvs k = some w ∧ sat sch w
  pinned : ∀ {sch v d}, constStr sch = some v → sat sch d → d = .str v

/-- **an internally tagged union is exclusive on objects**: with a tag chosen, no object document satisfies two different
    subschemas — the tag value of a valid instance names at most one variant -/
theorem tagged_branches_exclusive (R : Reading) {f : Nat} {ss : List Json} {t : String} (h : intTag f ss = some t)
    (i j : Nat) (hi : i < ss.length) (hj : j < ss.length) (hij : i < j) (kvs : List (String × Json))
    (hsi : R.sat ss[i] (.obj kvs)) (hsj : R.sat ss[j] (.obj kvs)) : False := by
  obtain ⟨vs, hlen, hnd, hall⟩ := intTag_sound h
  have hiv : i < vs.length := hlen ▸ hi
  have hjv : j < vs.length := hlen ▸ hj
  obtain ⟨o, rq, ps, sch, ho, hr, hp, hc, hm, hcs⟩ := (forall_mem_zip (Pinned f · t ·)).mp hall i hi hiv
  obtain ⟨o', rq', ps', sch', ho', hr', hp', hc', hm', hcs'⟩ := (forall_mem_zip (Pinned f · t ·)).mp hall j hj hjv
  -- both subschemas make the document carry the tag member, pinned to their own string
  obtain ⟨w, hw, hsw⟩ := R.member ho hr hp hc hm hsi
  obtain ⟨w', hw', hsw'⟩ := R.member ho' hr' hp' hc' hm' hsj
  cases hw.symm.trans hw'
  have e := (R.pinned hcs hsw).symm.trans (R.pinned hcs' hsw')
  exact (List.pairwise_iff_getElem.mp hnd) i j hiv hjv hij (Json.str.inj e)

theorem mapM_some_mem {α β : Type} {g : α → Option β} : ∀ {l : List α} {rs : List β}, l.mapM g = some rs →
    ∀ a ∈ l, ∃ r ∈ rs, g a = some r := by
  intro l
  induction l with
  | nil => intro rs _ a ha; simp at ha
  | cons x xs ih =>
    intro rs h a ha
    rw [List.mapM_cons] at h
    cases hx : g x with
    | none => rw [hx] at h; simp at h
    | some y =>
      cases hxs : xs.mapM g with
      | none => rw [hx, hxs] at h; simp at h
      | some ys =>
        rw [hx, hxs] at h
        simp at h
        subst h
        rcases List.mem_cons.mp ha with e | e
        · subst e; exact ⟨y, List.mem_cons_self, hx⟩
        · obtain ⟨r, hr, hg⟩ := ih hxs a e
          exact ⟨r, List.mem_cons_of_mem _ hr, hg⟩

theorem mem_inter {a b : List String} {x : String} : x ∈ inter a b ↔ x ∈ a ∧ x ∈ b := by
  simp [inter, List.mem_filter]

theorem mem_union {a b : List String} {x : String} : x ∈ union a b ↔ x ∈ a ∨ x ∈ b := by
  simp only [union, List.mem_append, List.mem_filter]
  constructor
  · rintro (h | ⟨h, _⟩)
    · exact Or.inl h
    · exact Or.inr h
  · rintro (h | h)
    · exact Or.inl h
    · by_cases ha : x ∈ a
      · exact Or.inl ha
      · exact Or.inr ⟨h, by simpa using ha⟩

theorem adjReduce_fold_spec (r : List (List String × List String)) :
    ∀ (p : List String × List String),
      let fin := r.foldl (fun acc q => (inter acc.1 q.1, union acc.2 q.2)) p
      (∀ x ∈ fin.1, x ∈ p.1 ∧ ∀ q ∈ r, x ∈ q.1) ∧ (∀ x ∈ p.2, x ∈ fin.2) ∧ (∀ q ∈ r, ∀ x ∈ q.2, x ∈ fin.2) := by
  induction r with
  | nil => intro p; simp
  | cons q r ih =>
    intro p
    simp only [List.foldl_cons]
    obtain ⟨h1, h2, h3⟩ := ih (inter p.1 q.1, union p.2 q.2)
    refine ⟨?_, ?_, ?_⟩
    · intro x hx
      obtain ⟨hx1, hx2⟩ := h1 x hx
      have := mem_inter.mp hx1
      refine ⟨this.1, ?_⟩
      intro q' hq'
      rcases List.mem_cons.mp hq' with e | e
      · subst e; exact this.2
      · exact hx2 q' e
    · intro x hx
      exact h2 x (mem_union.mpr (Or.inl hx))
    · intro q' hq' x hx
      rcases List.mem_cons.mp hq' with e | e
      · subst e; exact h2 x (mem_union.mpr (Or.inr hx))
      · exact h3 q' e x hx

theorem filter_ne_length (a : String) : ∀ (m : List String), m.Nodup → m.length ≤ (m.filter (fun y => !y == a)).length + 1 := by
  intro m
  induction m with
  | nil => simp
  | cons b r ih =>
    intro hnd
    rw [List.nodup_cons] at hnd
    by_cases hb : b = a
    · subst hb
      have : r.filter (fun y => !y == b) = r := List.filter_eq_self.mpr (by
        intro y hy; have : y ≠ b := fun e => hnd.1 (e ▸ hy); simpa using this)
      simp [this]
    · have := ih hnd.2
      simp only [List.filter_cons, List.length_cons]
      have hb' : (!b == a) = true := by simpa using hb
      simp only [hb', if_true, List.length_cons]
      omega

/-- pigeonhole: pairwise different members of `l` are no more than `l` has different members -/
theorem nodup_le_eraseDups : ∀ (n : Nat) (l : List String), l.length ≤ n → ∀ m : List String, m.Nodup → (∀ y ∈ m, y ∈ l) →
    m.length ≤ l.eraseDups.length := by
  intro n
  induction n with
  | zero =>
    intro l h m _ hm
    have : l = [] := List.eq_nil_of_length_eq_zero (by omega)
    subst this
    cases m with
    | nil => simp
    | cons y _ => exact absurd (hm y List.mem_cons_self) (by simp)
  | succ n ih =>
    intro l h m hnd hm
    cases l with
    | nil =>
      cases m with
      | nil => simp
      | cons y _ => exact absurd (hm y List.mem_cons_self) (by simp)
    | cons a r =>
      rw [List.eraseDups_cons]
      have hfl : (List.filter (fun b => !b == a) r).length ≤ r.length := List.length_filter_le _ _
      have hm' : ∀ y ∈ m.filter (fun y => !y == a), y ∈ List.filter (fun b => !b == a) r := by
        intro y hy
        rw [List.mem_filter] at hy ⊢
        refine ⟨?_, hy.2⟩
        rcases List.mem_cons.mp (hm y hy.1) with e | e
        · subst e; simp at hy
        · exact e
      have := ih (List.filter (fun b => !b == a) r) (by simp at h; omega) (m.filter (fun y => !y == a))
        (hnd.sublist List.filter_sublist) hm'
      have := filter_ne_length a m hnd
      simp only [List.length_cons]
      omega

/-- what `adjBranch` has checked of a subschema it answers for -/
theorem adjBranch_some {f : Nat} {s : Json} {q : List String × List String} (h : adjBranch f s = some q) :
    ∃ o rq ps, getObject f s = some o ∧ reqOf o = some rq ∧ propsOf o = some ps ∧ ps.length = rq.length ∧
      (∀ r ∈ rq, has ps r = true) ∧ (∀ t ∈ q.1, ∃ sch v, (t, sch) ∈ ps ∧ constStr sch = some v) ∧ q.2 = ps.map (·.1) := by
  unfold adjBranch at h
  split at h
  next o ho =>
    split at h
    next rq ps hr hp =>
      split at h
      next hlen =>
        cases h
        have hlen' : ps.length = rq.length ∧ ∀ x ∈ rq, has ps x = true := by simpa using hlen
        refine ⟨o, rq, ps, ho, hr, hp, hlen'.1, hlen'.2, ?_, rfl⟩
        intro t ht
        obtain ⟨⟨k, sch⟩, hkm, hk⟩ := List.mem_filterMap.mp ht
        cases hcs : constStr sch with
        | none => simp [hcs] at hk
        | some v =>
          obtain rfl : k = t := by simpa [hcs] using hk
          exact ⟨sch, v, hkm, hcs⟩
      next => cases h
    next => cases h
  next => cases h

/-- what `maybe_adjacently_tagged_enum` has established when it names a tag and a content member: they differ, the tag is
    pinned to one string in every subschema, every subschema requires exactly the members it declares (as many, and every
    required name declared — what typify's guard compares since 5170496 are the names, not the sizes), and none has a member besides the two -/
theorem adjacent_sound {f : Nat} {ss : List Json} {t c : String} (h : adjTagContent f ss = some (t, c)) :
    t ≠ c ∧ ∀ s ∈ ss, ∃ o rq ps, getObject f s = some o ∧ reqOf o = some rq ∧ propsOf o = some ps ∧ ps.length = rq.length ∧
      (∀ r ∈ rq, has ps r = true) ∧
      (∃ sch v, (t, sch) ∈ ps ∧ constStr sch = some v) ∧ ∀ kv ∈ ps, kv.1 = t ∨ kv.1 = c := by
  unfold adjTagContent at h
  split at h
  next => cases h
  next sets hmm =>
    cases sets with
    | nil => simp [adjReduce] at h
    | cons p r =>
      simp only [adjReduce] at h
      generalize hfin : List.foldl (fun acc q => (inter acc.1 q.1, union acc.2 q.2)) p r = fin at h
      obtain ⟨tags, props⟩ := fin
      obtain ⟨h1, h2, h3⟩ := adjReduce_fold_spec r p
      simp only [hfin] at h h1 h2 h3
      split at h
      next => cases h
      next hcount =>
        split at h
        next t' c' hlt hlc =>
          cases h
          have htm := least_mem hlt
          obtain ⟨hcp, hct⟩ := List.mem_filter.mp (least_mem hlc)
          have hne : t ≠ c := fun e => by simp [← e, htm] at hct
          have hp2 : props.eraseDups.length = 2 := (show _ ∧ _ by simpa using hcount).2
          refine ⟨hne, fun s hs => ?_⟩
          obtain ⟨q, hq, hqs⟩ := mapM_some_mem hmm s hs
          -- the tag is pinned in `q`, and `q`'s members are among `props`
          have htq : t ∈ q.1 := by
            rcases List.mem_cons.mp hq with rfl | e
            · exact (h1 t htm).1
            · exact (h1 t htm).2 q e
          have hqprops : ∀ x ∈ q.2, x ∈ props := by
            rcases List.mem_cons.mp hq with rfl | e
            · exact h2
            · exact h3 q e
          obtain ⟨o, rq, ps, ho, hr, hpp, hlen, hdecl, hpin, hq2⟩ := adjBranch_some hqs
          refine ⟨o, rq, ps, ho, hr, hpp, hlen, hdecl, hpin t htq, fun kv hkv => ?_⟩
          -- a third member would be a third different element of `props`
          have hin : ∀ kv ∈ ps, kv.1 ∈ props := fun kv hkv => hqprops _ (hq2 ▸ List.mem_map.mpr ⟨kv, hkv, rfl⟩)
          obtain ⟨sch, _, hts, _⟩ := hpin t htq
          refine Classical.byContradiction fun hx => ?_
          obtain ⟨hxt, hxc⟩ := not_or.mp hx
          have hnd3 : [t, c, kv.1].Nodup := by simp [hne, Ne.symm hxt, Ne.symm hxc]
          have := nodup_le_eraseDups _ props (Nat.le_refl _) [t, c, kv.1] hnd3 (by
            simp only [List.mem_cons, List.not_mem_nil, or_false]
            rintro y (rfl | rfl | rfl)
            · exact hin _ hts
            · exact hcp
            · exact hin _ hkv)
          simp only [List.length_cons, List.length_nil] at this
          omega
        next => cases h

/-- the hypotheses are met by a concrete pair -/
example :
    adjTagContent 8 [.obj [("properties", .obj [("c", .obj [("type", .str "integer")]), ("t", .obj [("enum", .arr [.str "p"])])]),
                           ("required", .arr [.str "t", .str "c"]), ("type", .str "object")],
                     .obj [("properties", .obj [("t", .obj [("enum", .arr [.str "q"])])]),
                           ("required", .arr [.str "t"]), ("type", .str "object")]] = some ("t", "c") := by decide +kernel

end TypifyModel.Tagging
