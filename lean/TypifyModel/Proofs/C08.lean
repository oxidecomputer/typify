import TypifyModel.Proofs.Lemmas.NamesLemmas
import TypifyModel.Proofs.Lemmas.NamesFixed
/-! # C08 — arbitrary names → valid identifiers, exact wire names

The theorems are stated over the model `TypifyModel.Names` (heck 0.5 `transform`, syn's identifier test, util.rs `sanitize` /
`recase` / `unique`, `TypeEntryEnum::from_metadata`, `struct_members`, `add_ref_types_impl`),
which the correspondence check `c08` ties to the real code on every run. All statements are for
strings of **any length** (induction over the character list); the domain of the model is ASCII
(`Ascii`), non-ASCII names are explored on the implementation only.

What "bound to exactly the original JSON name" means here: the name serde uses for a rendered
field/variant is the `rename` string when a `#[serde(rename = …)]` is emitted and the identifier
otherwise (`Names.wireName`; typify never emits `rename_all`). That serde's derive really reads
and writes that name is a fact about serde_derive, exercised on compiled code elsewhere (M3). -/
namespace TypifyModel.C08
open TypifyModel TypifyModel.Names

/-- **`sanitize` always returns something `syn::parse_str::<syn::Ident>` accepts**: non-empty,
    XID_Start or `_` first, XID_Continue after, not a keyword (strict or reserved, incl.
    `self`/`Self`/`crate`/`super`), not `_`. Any ASCII string, either case. -/
theorem sanitize_ident (s : Str) (k : Case) (_h : Ascii s) : isRustIdent (sanitize s k) = true :=
  isRustIdent_sanitize s k

example : Ascii "won't and can't".toList ∧
    sanitize "won't and can't".toList .pascal = "WontAndCant".toList ∧
    sanitize "self".toList .snake = "self_".toList ∧ sanitize "".toList .snake = "x".toList ∧
    sanitize "1-Self".toList .pascal = "X1Self".toList := by
  -- evaluated through `sanitize_eq`: see `keywordChars`
  simp only [sanitize_eq]; decide +kernel

/-- `recase`: the rename is present iff the identifier differs, and then it is the original -/
theorem recase_wire (s : Str) (c : Case) (id : Str) (rn : Option Str)
    (h : recase s c = (id, rn)) : (rn = none ∧ id = s) ∨ (rn = some s ∧ id ≠ s) := by
  obtain ⟨rfl, rfl⟩ := Prod.mk.inj h.symm
  by_cases he : sanitize s c = s
  · left; exact ⟨if_pos he, he⟩
  · right; exact ⟨if_neg he, he⟩

/-- the same, as one equation: the wire name of what `recase` returns is the input, and the
    identifier is valid -/
theorem recase_ok (s : Str) (c : Case) (h : Ascii s) :
    wireName (recase s c) = s ∧ isRustIdent (recase s c).1 = true :=
  ⟨wire_recase s c, sanitize_ident s c h⟩

example : recase "foo-bar".toList .snake = ("foo_bar".toList, some "foo-bar".toList) ∧
    recase "foo".toList .snake = ("foo".toList, none) := by
  simp only [recase, sanitize_eq]; decide +kernel

theorem variantNames_ok {vs names : List Str} (h : variantNames vs = .ok names) :
    unique names = true ∧ ∃ f : Str → Str, names = vs.map (fun r => sanitize (f r) .pascal) := by
  unfold variantNames at h
  split at h
  · cases h; exact ⟨‹_›, id, rfl⟩
  · split at h
    · cases h; exact ⟨‹_›, replX, rfl⟩
    · cases h

/-- when variant naming succeeds the identifiers are pairwise distinct (either pass) -/
theorem variants_distinct (vs names : List Str) (h : variantNames vs = .ok names) :
    names.Nodup :=
  (unique_iff_nodup _).mp (variantNames_ok h).1

set_option linter.unusedVariables false in
/-- … one identifier per variant, each a valid Rust identifier -/
theorem variants_ident (vs names : List Str) (hv : AllAscii vs) (h : variantNames vs = .ok names) :
    names.length = vs.length ∧ ∀ n ∈ names, isRustIdent n = true := by
  -- `hv` is unused (`sanitize` yields an identifier on any input): it marks the model's domain
  obtain ⟨f, rfl⟩ := (variantNames_ok h).2
  refine ⟨List.length_map _, fun n hn => ?_⟩
  obtain ⟨r, _, rfl⟩ := List.mem_map.mp hn
  exact isRustIdent_sanitize _ _

/-- … and every rendered variant is bound to exactly its raw name (`output_variant` emits
    `#[serde(rename = raw)]` iff the identifier differs from the raw name) -/
theorem variant_wire (vs names : List Str) (h : variantNames vs = .ok names) :
    (renderVariants vs names).map wireName = vs ∧ (renderVariants vs names).map (·.1) = names := by
  obtain ⟨f, rfl⟩ := (variantNames_ok h).2
  exact renderVariants_spec vs _ (List.length_map _)

example : variantNames ["a-b".toList, "ab".toList, "self".toList] =
    .ok ["AB".toList, "Ab".toList, "Self_".toList] := by
  simp only [variantNames, variantPass1, variantPass2, sanitize_eq]; decide +kernel
-- the second pass is what resolves this one
example : variantNames ["a+".toList, "a".toList] = .ok ["AX".toList, "A".toList] := by
  simp only [variantNames, variantPass1, variantPass2, sanitize_eq]; decide +kernel

/-- mechanism predicate of finding C08-variant-panic (negated): one of the two naming passes
    gives distinct identifiers -/
def NoVariantCollision (vs : List Str) : Prop :=
  unique (variantPass1 vs) = true ∨ unique (variantPass2 vs) = true
instance (vs : List Str) : Decidable (NoVariantCollision vs) := by
  unfold NoVariantCollision; infer_instance

/-- FULL statement ("generation either fails with an *error* or …"): naming never panics on
    distinct enum values. False on the current tree — see `C08Findings.variants_no_panic_full_false`. -/
def variants_no_panic_full : Prop :=
  ∀ vs : List Str, AllAscii vs → vs.Nodup → variantNames vs ≠ .panic

theorem variants_no_panic_partial (vs : List Str) (h : NoVariantCollision vs) :
    variantNames vs ≠ .panic := by
  unfold variantNames
  rcases h with h | h
  · rw [if_pos h]; exact NamesResult.noConfusion
  · rw [if_pos h]; split <;> exact NamesResult.noConfusion

example : NoVariantCollision ["a-b".toList, "ab".toList] ∧
    NoVariantCollision ["a+".toList, "a".toList] ∧
    ¬ unique (variantPass1 ["a+".toList, "a".toList]) = true := by
  simp only [NoVariantCollision, variantPass1, variantPass2, sanitize_eq]; decide +kernel

theorem structFields_perm (props : List Str) :
    (structFields props).Perm (props.map (recase · .snake)) :=
  List.mergeSort_perm _ _

/-- every field is bound to exactly one of the original property names, each name once -/
theorem fields_wire (props : List Str) : ((structFields props).map wireName).Perm props := by
  have h := (structFields_perm props).map wireName
  simpa only [List.map_map, Function.comp_def, wire_recase, List.map_id'] using h

/-- hence distinct JSON names keep distinct wire names, whatever the identifiers are -/
theorem fields_wire_distinct (props : List Str) (h : props.Nodup) :
    ((structFields props).map wireName).Nodup :=
  (fields_wire props).nodup_iff.mpr h

/-- every field identifier is a valid Rust identifier, and a rename is the original name of a
    property whose identifier differs from it -/
theorem fields_ident (props : List Str) (hp : AllAscii props) :
    ∀ f ∈ structFields props, isRustIdent f.1 = true ∧
      ((f.2 = none ∧ f.1 ∈ props) ∨ ∃ p ∈ props, f.2 = some p ∧ f.1 ≠ p) := by
  intro f hf
  obtain ⟨p, hpm, rfl⟩ := List.mem_map.mp ((structFields_perm props).mem_iff.mp hf)
  refine ⟨sanitize_ident p .snake (hp p hpm), ?_⟩
  rcases recase_wire p .snake (recase p .snake).1 (recase p .snake).2 rfl with ⟨h1, h2⟩ | ⟨h1, h2⟩
  · left; exact ⟨h1, by rw [h2]; exact hpm⟩
  · right; exact ⟨p, hpm, h1, h2⟩

theorem fieldIdents_perm (props : List Str) :
    (fieldIdents props).Perm (props.map (sanitize · .snake)) := by
  have h := (structFields_perm props).map (·.1)
  simpa only [fieldIdents, List.map_map, Function.comp_def, recase] using h

/-- mechanism predicate of finding C08-field-collision (negated): no two properties get the same
    snake-case identifier -/
def NoFieldCollision (props : List Str) : Prop := unique (props.map (sanitize · .snake)) = true
instance (props : List Str) : Decidable (NoFieldCollision props) := by
  unfold NoFieldCollision; infer_instance

/-- FULL statement: distinct property names give distinct field identifiers (the code has no error
    path for this, so "or fails with an error" adds nothing). False on the current tree — see
    `C08Findings.fields_distinct_full_false`. -/
def fields_distinct_full : Prop :=
  ∀ props : List Str, AllAscii props → props.Nodup → (fieldIdents props).Nodup

theorem fields_distinct_partial (props : List Str) (h : NoFieldCollision props) :
    (fieldIdents props).Nodup :=
  (fieldIdents_perm props).nodup_iff.mpr ((unique_iff_nodup _).mp h)

/-- the converse: outside the predicate the emitted struct *does* have two fields of one name -/
theorem fields_collide (props : List Str) (h : ¬ NoFieldCollision props) :
    ¬ (fieldIdents props).Nodup := by
  intro hn
  exact h ((unique_iff_nodup _).mpr ((fieldIdents_perm props).nodup_iff.mp hn))

example : NoFieldCollision ["type".toList, "fooBar".toList, "foo-baz".toList, "".toList] ∧
    [sanitize "type".toList .snake, sanitize "fooBar".toList .snake, sanitize "".toList .snake]
      = ["type_".toList, "foo_bar".toList, "x".toList] := by
  simp only [NoFieldCollision, sanitize_eq]; decide +kernel

/-- A natural class inside the hypothesis: property names that already are snake-case identifiers
    `w₁_w₂_…_wₙ` (words of lower-case letters and digits, not a keyword) keep their name as field
    identifier, get no rename, and — being distinct — never collide. -/
def SnakeName (s : Str) : Prop :=
  ∃ ws : List Str, ws ≠ [] ∧ (∀ w ∈ ws, SnakeWord w) ∧ s = joinSnake ws ∧ isRustIdent s = true

theorem snake_name_fixed (s : Str) (h : SnakeName s) :
    recase s .snake = (s, none) := by
  obtain ⟨ws, hne, hw, rfl, hid⟩ := h
  unfold recase
  simp only [sanitize_joinSnake ws hne hw hid, if_true]

theorem snake_names_no_collision (props : List Str) (h : ∀ p ∈ props, SnakeName p)
    (hn : props.Nodup) : NoFieldCollision props := by
  have : props.map (sanitize · .snake) = props :=
    (List.map_congr_left (g := id) fun p hp => congrArg Prod.fst (snake_name_fixed p (h p hp))).trans
      (List.map_id _)
  rw [NoFieldCollision, unique_iff_nodup, this]; exact hn

example : SnakeName "foo_bar2".toList :=
  ⟨["foo".toList, "bar2".toList], by decide, by
    intro w hw
    simp only [List.mem_cons, List.not_mem_nil, or_false] at hw
    rcases hw with rfl | rfl <;> exact ⟨by decide, by decide⟩, by decide +kernel, by
    rw [isRustIdent, isKeyword_eq]; decide +kernel⟩

/-- mechanism predicate of finding C08-extra-field-collision (negated): no property gets the
    identifier `extra`, the fixed name of the flattened additional-properties map -/
def NoExtraCollision (props : List Str) : Prop := extraIdent ∉ props.map (sanitize · .snake)
instance (props : List Str) : Decidable (NoExtraCollision props) := by
  unfold NoExtraCollision; infer_instance

/-- FULL statement for an object with `additionalProperties: <schema>`. False on the current
    tree — see `C08Findings.fields_extra_distinct_full_false`. -/
def fields_extra_distinct_full : Prop :=
  ∀ props : List Str, AllAscii props → props.Nodup → (fieldIdentsExtra props).Nodup

theorem fields_extra_distinct_partial (props : List Str) (h1 : NoFieldCollision props)
    (h2 : NoExtraCollision props) : (fieldIdentsExtra props).Nodup := by
  unfold fieldIdentsExtra
  rw [List.nodup_append]
  refine ⟨fields_distinct_partial props h1, by simp, ?_⟩
  intro a ha b hb hab
  rw [hab, List.mem_singleton.mp hb] at ha
  exact h2 ((fieldIdents_perm props).mem_iff.mp ha)

example : NoFieldCollision ["extras".toList, "ext-ra".toList] ∧
    NoExtraCollision ["extras".toList, "ext-ra".toList] := by
  simp only [NoFieldCollision, NoExtraCollision, sanitize_eq]; decide +kernel

theorem defs_ident (keys : List Str) (hk : AllAscii keys) :
    (defNames keys).length = keys.length ∧ ∀ n ∈ defNames keys, isRustIdent n = true := by
  refine ⟨List.length_map _, fun n hn => ?_⟩
  obtain ⟨k, hkm, rfl⟩ := List.mem_map.mp hn
  exact sanitize_ident k .pascal (hk k hkm)

/-- mechanism predicate of finding C08-def-collision (negated) -/
def NoDefCollision (keys : List Str) : Prop := unique (defNames keys) = true
instance (keys : List Str) : Decidable (NoDefCollision keys) := by
  unfold NoDefCollision; infer_instance

/-- FULL statement: distinct definition keys give distinct item names (no error path exists).
    False on the current tree — see `C08Findings.defs_distinct_full_false`. -/
def defs_distinct_full : Prop :=
  ∀ keys : List Str, AllAscii keys → keys.Nodup → (defNames keys).Nodup

theorem defs_distinct_partial (keys : List Str) (h : NoDefCollision keys) :
    (defNames keys).Nodup := (unique_iff_nodup _).mp h

example : NoDefCollision ["foo-bar".toList, "fooBaz".toList, "1".toList] ∧
    defNames ["foo-bar".toList, "1".toList] = ["FooBar".toList, "X1".toList] := by
  simp only [NoDefCollision, defNames, sanitize_eq]; decide +kernel

end TypifyModel.C08
