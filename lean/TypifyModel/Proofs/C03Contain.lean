import TypifyModel.Proofs.C03
import TypifyModel.Proofs.Lemmas.ContainEnum
import TypifyModel.Proofs.Lemmas.ContainFlat
/-! # C03 — round trip keeps declared data (the containment clause)

`rt_contains`: for every IR σ, every set `S` of type ids closed under reference whose entries satisfy
the decidable side conditions `entryOkB` (Model/RoundTrip.lean — the same ones as `de_se_de`), every
type in `S`, every fuel and every document `v` that is wire-shaped for the type and contains only
declared members (`declared`, Model/Contain.lean): if `de v = ok a` and `se a = ok w` then
`prune v` is contained in `prune w` — objects by member, arrays element-wise, numbers numerically;
`prune` drops object members whose value is null / [] / {} (bottom-up).

All three evaluations (`declared`, `de`, `se`) use the same fuel. The induction is the one of
`de_se_de` (Proofs/C03.lean): three predicates over fuel — types (`CatS`), struct member lists
(`Scat`), variant bodies (`Vcat`). Each step is assembled from lemmas that speak of one type constructor
(or one member list, one variant body) and of containment at its parts one fuel level below; the closed
set `S` enters only in `cat_step`.

Hypotheses, and why each is needed (for the first two, counterexamples as `example`s at the end of the file):
* `declared`: an undeclared member of a struct is dropped by `de` (`deny_unknown_fields` absent), so it
  is not in `w`.
* `declared` asks for the *wire shape* of a data-less variant of an externally tagged enum, the bare
  string `"V"`. serde also reads `{"V": null}`, writes `"V"`, and `{}` (= `prune {"V": null}`) is not
  contained in a string. That document is not schema-valid either.
* `closedOkB`: untagged enums are outside (`entryOkB`), as are internally tagged newtype/tuple variants. -/
namespace TypifyModel.C03
open TypifyModel TypifyModel.Serde TypifyModel.RoundTrip TypifyModel.Contain

def Cat (x : Ext) (σ : Space) (f : Nat) (t : Id) : Prop :=
  ∀ v a w, declared σ f t v = true → de x σ f t v = .ok a → se σ f t a = .ok w →
    contained (prune v) (prune w) = true

def CatFields (x : Ext) (σ : Space) (f : Nat) (ps : List Field) : Prop :=
  ∀ (deny : Bool) (kvs : List (String × Json)) (fs : List (String × Val)) (es : List (String × Json)),
    declaredStruct σ f ps (.obj kvs) = true →
    deStruct x σ f ps deny (.obj kvs) = .ok (.struct fs) → seStruct σ f ps fs = .ok es →
    containedObj (pruneObj kvs) (pruneObj es) = true

def CatBody (x : Ext) (σ : Space) (f : Nat) (d : VDetails) : Prop :=
  ∀ (deny sq : Bool) (v : Json) (p : Val) (w : Json), declaredBody σ f d v = true →
    deVariantBody x σ f d deny sq v = .ok p → seVariantBody σ f d p = .ok w →
    contained (prune v) (prune w) = true

variable (x : Ext) (σ : Space) (S : List Id)

section step
variable {f : Nat} {t t' : Id} {ed : List String} {im : List Impl}

theorem body_tuple {ts : List Id} (h : ∀ t ∈ ts, Cat x σ f t) : CatBody x σ (f + 1) (.tuple ts) := by
  intro deny sq v p w hd h1 h2
  simp only [deVariantBody] at h1
  simp only [declaredBody] at hd
  cases v with
  | arr xs =>
    simp only at h1 hd
    split at h1
    · rename_i vs hz
      cases h1
      simp only [seVariantBody] at h2
      split at h2
      · rename_i js hs
        cases h2
        exact zip_contained hz hs hd h
      · cases h2
    · cases h1
  | _ => cases h1

theorem body_struct {ps : List Field} (h : CatFields x σ f ps) : CatBody x σ (f + 1) (.struct ps) := by
  intro deny sq v p w hd h1 h2
  simp only [declaredBody] at hd
  obtain ⟨kvs, rfl⟩ := declaredStruct_obj hd
  simp only [deVariantBody] at h1
  have hds : deStruct x σ f ps deny (.obj kvs) = .ok p := h1
  obtain ⟨fs, rfl⟩ := deStruct_shape x σ hds
  simp only [seVariantBody] at h2
  split at h2
  · rename_i es hs
    cases h2
    exact h deny kvs fs es hd hds hs
  · cases h2

theorem cat_option (hg : σ.get t = some ⟨.option t', ed, im⟩) (h : Cat x σ f t') : Cat x σ (f + 1) t := by
  intro v a w hd h1 h2
  by_cases hv : v = .null
  · -- null ↦ None ↦ null
    subst hv
    simp only [de, hg, Except.ok.injEq] at h1; subst h1
    rw [se_none_null σ (f + 1) t t' ed im w hg h2]
    rfl
  · have hd' : declared σ f t' v = true := by
      simp only [declared, hg] at hd
      cases v <;> first | exact absurd rfl hv | exact hd
    rw [de_option_of_ne_null hg hv] at h1
    simp only [se, hg] at h2
    split at h1
    · rename_i hg'
      simp only [hg'] at h2
      exact h v a w hd' h1 h2
    · rename_i hnopt
      split at h1
      · rename_i a' hde
        cases h1
        split at h2
        · rename_i t'' ed' im' hc; exact absurd hc (hnopt t'' ed' im')
        · exact h v a' w hd' hde h2
      · cases h1

theorem arr_contained (h : Cat x σ f t') {v : Json} {a : Val} {w : Json}
    (hd : (match v with
      | .arr xs => xs.all (declared σ f t')
      | _ => true) = true)
    (h1 : (match v with
      | .arr xs => (match mapM' (de x σ f t') xs with | .ok vs => .ok (.seq vs) | .error e => .error e)
      | _ => .error .reject) = Except.ok a)
    (h2 : (match a with
      | .seq vs => (match mapM' (se σ f t') vs with | .ok js => .ok (.arr js) | .error e => .error e)
      | _ => .error .reject) = Except.ok w) : contained (prune v) (prune w) = true := by
  cases v with
  | arr xs =>
    simp only at h1 hd
    split at h1
    · rename_i vs hm
      cases h1
      simp only at h2
      split at h2
      · rename_i js hs
        cases h2
        exact mapM'_contained hm hs hd h
      · cases h2
    · cases h1
  | _ => cases h1

theorem cat_map {k : Id} (hg : σ.get t = some ⟨.map k t', ed, im⟩) (h : Cat x σ f t') : Cat x σ (f + 1) t := by
  intro v a w hd h1 h2
  simp only [de, hg] at h1
  simp only [declared, hg] at hd
  cases v with
  | obj kvs =>
    simp only [Bool.and_eq_true] at h1 hd
    split at h1
    · rename_i es hm
      cases h1
      simp only [se, hg] at h2
      split at h2
      · rename_i es' hs
        cases h2
        refine map_contained hm hs hd.1 (G := de x σ f t') (H := se σ f t') ?_ ?_
          (fun kv hkv b c => h kv.2 b c (List.all_eq_true.mp hd.2 kv hkv))
        · intro kv r hr
          split at hr
          · cases hr; exact ⟨rfl, by assumption⟩
          · cases hr; exact ⟨rfl, by assumption⟩
          · cases hr
          · cases hr
          · cases hr
        · intro e r hr
          split at hr
          · cases hr; exact ⟨rfl, by assumption⟩
          · cases hr
      · cases h2
    · cases h1
  | _ => cases h1

variable {n tg ct : String} {vs : List Variant} {deny : Bool} {d : Option Json} {bes : List Bespoke}

theorem cat_external (hg : σ.get t = some ⟨.enum n .external vs deny d bes, ed, im⟩)
    (hV : ∀ vr ∈ vs, CatBody x σ f vr.details) : Cat x σ (f + 1) t := by
  intro v a w hd h1 h2
  obtain ⟨i, vr, hfi, hvi, hj⟩ := de_external hg h1
  have hva := variantAt_of_findIdx hfi hvi
  obtain ⟨raw, ident, det'⟩ := vr
  rcases hj with ⟨rfl, hdet, rfl⟩ | ⟨body, rest, p, rfl, -, hb, rfl⟩
  · cases (hdet : det' = _)
    simp only [se, hg, hvi, Except.ok.injEq] at h2; subst h2
    exact contained_refl _ rfl
  · simp only [declared, hg] at hd
    cases rest with
    | cons _ _ => cases hd
    | nil =>
      simp only [hva] at hd
      cases det' with
      | simple => cases hd          -- `{"V": null}` for a data-less variant is not wire-shaped
      | item _ | tuple _ | struct _ =>
        simp only [se, hg, hvi] at h2
        split at h2
        · rename_i b hsb
          cases h2
          exact contained_single (hV _ (List.mem_of_getElem? hvi) deny true body p b hd hb hsb)
        · cases h2

theorem cat_internal (hg : σ.get t = some ⟨.enum n (.internal tg) vs deny d bes, ed, im⟩)
    (hok : ∀ vr ∈ vs, variantOkB σ (.internal tg) vr = true)
    (hS : ∀ vr ∈ vs, ∀ ps, vr.details = .struct ps → CatFields x σ f ps) : Cat x σ (f + 1) t := by
  intro v a w hd h1 h2
  obtain ⟨kvs, i, vr, rfl, hl, hfi, hvi, hdet⟩ := de_internal hg h1
  have hm := List.mem_of_getElem? hvi
  have hvo := hok vr hm
  simp only [declared, hg, hl, variantAt_of_findIdx hfi hvi, Bool.and_eq_true] at hd
  obtain ⟨hndk, hd⟩ := hd
  obtain ⟨raw, ident, det'⟩ := vr
  rcases hdet with ⟨hdt, rfl⟩ | ⟨ps, p, hdt, hds, rfl⟩ | ⟨t', p, hdt, -, -⟩ <;> cases (hdt : det' = _)
  · simp only [se, hg, hvi, Except.ok.injEq] at h2; subst h2
    simp only [List.isEmpty_iff] at hd
    exact tagged_contained hndk hl (by rw [hd]; rfl)
  · obtain ⟨fs, rfl⟩ := deStruct_shape x σ hds
    simp only [se, hg, hvi] at h2
    split at h2
    · rename_i es hs
      cases h2
      exact tagged_contained hndk hl (hS _ hm ps rfl deny _ fs es hd hds hs)
    · cases h2
  · cases hvo

theorem cat_adjacent (hg : σ.get t = some ⟨.enum n (.adjacent tg ct) vs deny d bes, ed, im⟩)
    (hok : ∀ vr ∈ vs, variantOkB σ (.adjacent tg ct) vr = true)
    (hV : ∀ vr ∈ vs, CatBody x σ f vr.details) : Cat x σ (f + 1) t := by
  intro v a w hd h1 h2
  obtain ⟨kvs, i, vr, rfl, -, hl, hfi, hvi, hct⟩ := de_adjacent hg h1
  have hm := List.mem_of_getElem? hvi
  have hvo := hok vr hm
  simp only [declared, hg, hl, Bool.and_eq_true] at hd
  obtain ⟨⟨hndk, hkeys⟩, hd⟩ := hd
  obtain ⟨raw, ident, det'⟩ := vr
  cases hlc : Json.lookup kvs ct with
  | none =>
    rw [hlc] at hct
    rcases hct with ⟨hdt, rfl⟩ | ⟨t', hdt, hopt, -⟩ <;> cases (hdt : det' = _)
    · simp only [se, hg, hvi, Except.ok.injEq] at h2; subst h2
      exact adjacent_contained hndk hkeys hl (fun body hb => by rw [hlc] at hb; cases hb)
    · simp only [variantOkB, Bool.not_eq_true'] at hvo
      rw [hvo] at hopt
      cases hopt
  | some body =>
    rw [hlc] at hct
    simp only [hlc, variantAt_of_findIdx hfi hvi] at hd
    rcases hct with ⟨hdt, rfl, rfl⟩ | ⟨hns, p, hb, rfl⟩
    · -- only `null` is accepted as content of a data-less variant, and it is pruned
      cases (hdt : det' = _)
      simp only [se, hg, hvi, Except.ok.injEq] at h2; subst h2
      exact adjacent_contained hndk hkeys hl (fun body hb hne => by rw [hlc] at hb; cases hb; cases hne)
    · cases det' with
      | simple => exact absurd rfl hns
      | item _ | tuple _ | struct _ =>
        simp only [se, hg, hvi] at h2
        split at h2
        · rename_i b hsb
          cases h2
          have hc := hV _ hm deny false body p b hd hb hsb
          refine adjacent_contained hndk hkeys hl (fun body' hb' hne => ?_)
          rw [hlc] at hb'; cases hb'
          exact ⟨_, lookup_pruneObj rfl (List.mem_singleton.mpr rfl) (contained_nonempty hc hne), hc⟩
        · cases h2

end step

def CatS (f : Nat) : Prop := ∀ t ∈ S, Cat x σ f t

def Scat (f : Nat) : Prop :=
  ∀ ps : List Field, (∀ p ∈ ps, p.ty ∈ S) → (fieldsOkB σ ps || fieldsOkFlatB σ ps) = true → CatFields x σ f ps

def Vcat (f : Nat) : Prop :=
  ∀ d : VDetails, (∀ c ∈ idsOfD d, c ∈ S) → detailsOk σ d → CatBody x σ f d

theorem scat_step {f : Nat} (hA : CatS x σ S f) : Scat x σ S (f + 1) := by
  intro ps hin hok deny kvs fs es hd h1 h2
  simp only [Bool.or_eq_true] at hok
  rcases hok with hok | hok
  · exact struct_contained x σ (fun p hp vk a w => hA p.ty (hin p hp) vk a w) hok hd h1 h2
  · exact struct_contained_flat x σ (fun p hp vk a w => hA p.ty (hin p hp) vk a w) hok hd h1 h2

theorem scat_variant {f : Nat} {ps : List Field} (hS : Scat x σ S f) (hin : ∀ c ∈ idsOfD (.struct ps), c ∈ S)
    (hok : detailsOk σ (.struct ps)) : CatFields x σ f ps :=
  hS ps (fun q hq => hin q.ty (List.mem_map_of_mem hq)) (by rw [show fieldsOkB σ ps = true from hok]; rfl)

theorem vcat_step {f : Nat} (hA : CatS x σ S f) (hS : Scat x σ S f) : Vcat x σ S (f + 1) := by
  intro d hin hok
  cases d with
  | simple =>
    intro deny sq v p w _ h1 h2
    simp only [deVariantBody] at h1
    cases v <;> simp at h1
    subst h1
    simp only [seVariantBody, Except.ok.injEq] at h2; subst h2
    rfl
  | item t => exact fun _ _ => hA t (hin t List.mem_cons_self)
  | tuple ts => exact body_tuple x σ (fun t ht => hA t (hin t ht))
  | struct ps => exact body_struct x σ (scat_variant x σ S hS hin hok)

theorem detailsOk_of_variantOk {tag : Tag} {vr : Variant} (h : variantOkB σ tag vr = true) :
    detailsOk σ vr.details := by
  unfold variantOkB at h
  unfold detailsOk
  cases hd : vr.details with
  | struct ps => rw [hd] at h; simp only [Bool.and_eq_true] at h; exact h.1
  | _ => trivial

theorem cat_step (hcl : closedOkB σ S = true) {f : Nat} (hA : CatS x σ S f) (hS : Scat x σ S f)
    (hV : Vcat x σ S f) : CatS x σ S (f + 1) := by
  intro t ht
  cases hg : σ.get t with
  | none => intro v a w _ h1; simp only [de, hg] at h1; cases h1
  | some ent =>
    obtain ⟨hok, hch⟩ := closed_get σ S hcl ht hg
    obtain ⟨det, ed, im⟩ := ent
    have hc : ∀ c ∈ childrenOf det, Cat x σ f c := fun c h => hA c (hch c h)
    cases det with
    | unit | boolean | string =>
      intro v a w _ h1 h2
      simp only [de, hg] at h1
      simp only [se, hg] at h2
      split at h1
      · cases h1; cases h2
        exact contained_refl _ rfl
      · cases h1
    | float _ =>
      intro v a w _ h1 h2
      simp only [de, hg] at h1
      simp only [se, hg] at h2
      split at h1
      · -- an integer literal read at a float type comes back as `n.0`: numerically equal
        cases h1; cases h2
        simp [prune, contained, scalarEq]
      · cases h1; cases h2
        exact contained_refl _ rfl
      · cases h1
    | integer n =>
      intro v a w _ h1 h2
      simp only [de, hg] at h1
      simp only [se, hg] at h2
      split at h1
      · cases h1
      · split at h1
        · split at h1
          · cases h1; cases h2
            exact contained_refl _ rfl
          · cases h1
        · cases h1
    | jsonValue =>
      intro v a w hd h1 h2
      simp only [de, hg] at h1
      simp only [se, hg] at h2
      simp only [declared, hg] at hd
      cases h1; cases h2
      exact contained_prune_self hd
    | native _ _ | reference _ => cases hok
    | box t' =>
      intro v a w hd h1 h2
      simp only [de, hg] at h1
      simp only [se, hg] at h2
      simp only [declared, hg] at hd
      exact hc t' List.mem_cons_self v a w hd h1 h2
    | newtype n inner c d =>
      intro v a w hd h1 h2
      simp only [se, hg] at h2
      simp only [declared, hg] at hd
      exact hc inner List.mem_cons_self v a w hd (de_newtype_ok hg h1) h2
    | option t' => exact cat_option x σ hg (hc t' List.mem_cons_self)
    | vec t' | set t' =>
      intro v a w hd h1 h2
      simp only [declared, hg] at hd
      simp only [de, hg] at h1
      simp only [se, hg] at h2
      exact arr_contained x σ (hc t' List.mem_cons_self) hd h1 h2
    | array t' n =>
      intro v a w hd h1 h2
      simp only [declared, hg] at hd
      simp only [de, hg] at h1
      simp only [se, hg] at h2
      refine arr_contained x σ (hc t' List.mem_cons_self) hd ?_ h2
      cases v with
      | arr xs =>
        simp only at h1 ⊢
        split at h1
        · exact h1
        · cases h1
      | _ => cases h1
    | map k vt => exact cat_map x σ hg (hc vt (List.mem_cons_of_mem _ List.mem_cons_self))
    | tuple ts =>
      -- a tuple type reads and writes as a tuple variant body does
      intro v a w hd h1 h2
      simp only [declared, hg] at hd
      simp only [de, hg] at h1
      simp only [se, hg] at h2
      exact body_tuple x σ hc false false v a w hd h1 h2
    | struct n ps deny d =>
      -- … as a struct variant body does (in the form that also accepts the positional array)
      intro v a w hd h1 h2
      simp only [declared, hg] at hd
      simp only [de, hg] at h1
      simp only [se, hg] at h2
      exact body_struct x σ (hS ps (fun q hq => hch q.ty (List.mem_map_of_mem hq)) hok)
        deny true v a w hd h1 h2
    | enum n tag vs deny d bes =>
      simp only [entryOkB, Bool.and_eq_true, List.all_eq_true] at hok
      obtain ⟨⟨_, htag⟩, hvs⟩ := hok
      have hin : ∀ vr ∈ vs, ∀ c ∈ idsOfD vr.details, c ∈ S := fun vr hm c hc =>
        hch c (List.mem_flatten.mpr ⟨variantIds vr, List.mem_map_of_mem hm, hc⟩)
      have hdo : ∀ vr ∈ vs, detailsOk σ vr.details := fun vr hm => detailsOk_of_variantOk σ (hvs vr hm)
      have hbody : ∀ vr ∈ vs, CatBody x σ f vr.details := fun vr hm => hV vr.details (hin vr hm) (hdo vr hm)
      cases tag with
      | untagged => cases htag
      | external => exact cat_external x σ hg hbody
      | internal tg =>
        exact cat_internal x σ hg hvs (fun vr hm ps hps =>
          scat_variant x σ S hS (hps ▸ hin vr hm) (hps ▸ hdo vr hm))
      | adjacent tg ct => exact cat_adjacent x σ hg hvs hbody

theorem rt_contains_all (hcl : closedOkB σ S = true) :
    ∀ (f : Nat), CatS x σ S f ∧ Scat x σ S f ∧ Vcat x σ S f := by
  intro f
  induction f with
  | zero =>
    refine ⟨?_, ?_, ?_⟩
    · intro t _ v a w _ h1; cases h1
    · intro ps _ _ deny kvs fs es _ h1; cases h1
    · intro d _ _ deny sq v p w _ h1; cases h1
  | succ f ih =>
    obtain ⟨hA, hS, hV⟩ := ih
    exact ⟨cat_step x σ S hcl hA hS hV, scat_step x σ S hA, vcat_step x σ S hA hS⟩

/-- **C03 (model level): the round trip keeps declared data** — for every type of a reference-closed
    set of well-formed entries and every fuel. -/
theorem rt_contains (x : Ext) (σ : Space) (S : List Id) (hS : closedOkB σ S = true) :
    ∀ f, ∀ t ∈ S, Cat x σ f t :=
  fun f => (rt_contains_all x σ S hS f).1

/-- the statement in the property's words: `v` valid for `T` with only declared members,
    `w = to_value(from_value::<T>(v))` ⇒ `prune(v)` is contained in `prune(w)` -/
theorem roundtrip_contains (hcl : closedOkB σ S = true) {t : Id} (ht : t ∈ S) (f : Nat)
    (v : Json) (a : Val) (w : Json)
    (hd : declared σ f t v = true) (h1 : de x σ f t v = .ok a) (h2 : se σ f t a = .ok w) :
    contained (prune v) (prune w) = true :=
  rt_contains x σ S hcl f t ht v a w hd h1 h2

theorem struct_roundtrip_contains (hcl : closedOkB σ S = true) (f : Nat) {ps : List Field}
    (hin : ∀ p ∈ ps, p.ty ∈ S) (hok : (fieldsOkB σ ps || fieldsOkFlatB σ ps) = true) {deny : Bool}
    {kvs : List (String × Json)} {fs : List (String × Val)} {es : List (String × Json)}
    (hd : declaredStruct σ f ps (.obj kvs) = true)
    (h1 : deStruct x σ f ps deny (.obj kvs) = .ok (.struct fs)) (h2 : seStruct σ f ps fs = .ok es) :
    containedObj (pruneObj kvs) (pruneObj es) = true :=
  (rt_contains_all x σ S hcl f).2.1 ps hin hok deny kvs fs es hd h1 h2

theorem variant_roundtrip_contains (hcl : closedOkB σ S = true) (f : Nat) {d : VDetails}
    (hin : ∀ c ∈ idsOfD d, c ∈ S) (hok : detailsOk σ d) {deny sq : Bool} {v : Json} {p : Val} {w : Json}
    (hd : declaredBody σ f d v = true)
    (h1 : deVariantBody x σ f d deny sq v = .ok p) (h2 : seVariantBody σ f d p = .ok w) :
    contained (prune v) (prune w) = true :=
  (rt_contains_all x σ S hcl f).2.2 d hin hok deny sq v p w hd h1 h2

/-! ### non-vacuity

A struct `R { a: String, o: Option<i64> (optional), d: i64 (default 7), x: f64, e: E }` with the externally
tagged `enum E { u, s { p: i64 } }`. In the document the optional member is `null` (pruned from `v`,
skipped in `w`), the member with a default is absent (added in `w`), the float member is written as the
integer literal `5` (comes back as `5.0`), and the enum is a struct variant. -/
def cSpace : Space := { entries := [
  (1, ⟨.struct "R" [⟨"a", .none, .required, 2⟩, ⟨"o", .none, .optional, 3⟩, ⟨"d", .none, .dflt (.int 7), 5⟩,
        ⟨"x", .none, .required, 7⟩, ⟨"e", .none, .required, 6⟩] false none, [], []⟩),
  (2, ⟨.string, [], []⟩),
  (3, ⟨.option 5, [], []⟩),
  (5, ⟨.integer "i64", [], []⟩),
  (6, ⟨.enum "E" .external [⟨"u", "U", .simple⟩, ⟨"s", "S", .struct [⟨"p", .none, .required, 5⟩]⟩] false none [], [], []⟩),
  (7, ⟨.float "f64", [], []⟩)] }

def cExt : Ext := ⟨fun _ _ => true⟩

def cV : Json :=
  .obj [("a", .str "x"), ("o", .null), ("x", .int 5), ("e", .obj [("s", .obj [("p", .int 3)])])]
def cA : Val :=
  .struct [("a", .str "x"), ("o", .none), ("d", .int 7), ("x", .flt 5 0), ("e", .variant 1 (.struct [("p", .int 3)]))]
def cW : Json :=
  .obj [("a", .str "x"), ("d", .int 7), ("x", .flt 5 0), ("e", .obj [("s", .obj [("p", .int 3)])])]

example : closedOkB cSpace [1, 2, 3, 5, 6, 7] = true := by decide +kernel
example : declared cSpace 9 1 cV = true := by decide +kernel
example : de cExt cSpace 9 1 cV = .ok cA := by rfl
example : se cSpace 9 1 cA = .ok cW := by rfl
/-- what the theorem says for this document, evaluated -/
example : contained (prune cV) (prune cW) = true := by decide +kernel
/-- … and obtained from the theorem -/
example : contained (prune cV) (prune cW) = true :=
  roundtrip_contains cExt cSpace [1, 2, 3, 5, 6, 7] (by decide +kernel) (t := 1) (by decide +kernel) 9 cV cA cW (by decide +kernel) (by rfl) (by rfl)
/-- the pruned input: the `null` member is gone; the output has the defaulted member in addition -/
example : prune cV = .obj [("a", .str "x"), ("x", .int 5), ("e", .obj [("s", .obj [("p", .int 3)])])] := by rfl
/-- the float member alone: `5` is contained in `5.0` -/
example : de cExt cSpace 9 7 (.int 5) = .ok (.flt 5 0) ∧ se cSpace 9 7 (.flt 5 0) = .ok (.flt 5 0) ∧
    contained (prune (.int 5)) (prune (.flt 5 0)) = true := ⟨by rfl, by rfl, by decide +kernel⟩
/-- a data-less variant of the externally tagged enum -/
example : declared cSpace 9 6 (.str "u") = true ∧ de cExt cSpace 9 6 (.str "u") = .ok (.variant 0 .unit) ∧
    se cSpace 9 6 (.variant 0 .unit) = .ok (.str "u") := ⟨by decide +kernel, by rfl, by rfl⟩

/-- remark: an undeclared member (`zz`; the struct does not deny unknown fields) is read and dropped,
    so the input is **not** contained in the output; `declared` is false for that document -/
def cVundeclared : Json := .obj [("a", .str "x"), ("x", .int 5), ("e", .str "u"), ("zz", .int 1)]
example : ∃ a w, de cExt cSpace 9 1 cVundeclared = .ok a ∧ se cSpace 9 1 a = .ok w ∧
    contained (prune cVundeclared) (prune w) = false ∧ declared cSpace 9 1 cVundeclared = false :=
  ⟨.struct [("a", .str "x"), ("o", .none), ("d", .int 7), ("x", .flt 5 0), ("e", .variant 0 .unit)],
   .obj [("a", .str "x"), ("d", .int 7), ("x", .flt 5 0), ("e", .str "u")], by rfl, by rfl, by decide +kernel, by decide +kernel⟩

/-- remark: serde reads `{"u": null}` as the data-less variant `u` and writes the string `"u"`;
    `prune {"u": null}` = `{}` is not contained in a string. The document is not the wire shape of the
    variant (nor schema-valid: the schema of `u` is `{"enum": ["u"]}`), and `declared` is false for it. -/
example : de cExt cSpace 9 6 (.obj [("u", .null)]) = .ok (.variant 0 .unit) ∧
    se cSpace 9 6 (.variant 0 .unit) = .ok (.str "u") ∧
    contained (prune (.obj [("u", .null)])) (prune (.str "u")) = false ∧
    declared cSpace 9 6 (.obj [("u", .null)]) = false := ⟨by rfl, by rfl, by decide +kernel, by decide +kernel⟩

end TypifyModel.C03
