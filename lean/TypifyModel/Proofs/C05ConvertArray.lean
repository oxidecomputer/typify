import TypifyModel.Model.ConvertArray
/-! # `convert_array`: the arity of a tuple / fixed array is the schema's, and positional `items` never silently
    become something else (C05's "fixed tuple length", C02's "no valid value unrepresentable" for arrays; checked under C10) -/
namespace TypifyModel.C05A
open TypifyModel.ConvertArray

/-- a tuple is produced only for `minItems = maxItems = n > 0`, and has exactly `n` members -/
theorem tuple_arity (v : ArrV) (n k : Nat) (r : Bool) (h : convertArray v = .tuple n k r) :
    v.maxItems = some n ∧ v.minItems = some n ∧ 0 < n ∧ k ≤ n ∧ (∃ l, v.items = .list l ∧ k = min l n) := by
  unfold convertArray at h
  split at h
  · cases h
  split at h
  next mx mn hmx hmn _ =>
    split at h
    next hc =>
      simp only [Bool.and_eq_true, beq_iff_eq, decide_eq_true_eq] at hc
      split at h
      next l hitems =>
        split at h <;> cases h
        · exact ⟨hmx, hc.1 ▸ hmn, hc.2, by omega, _, hitems, by omega⟩
        · exact ⟨hmx, hc.1 ▸ hmn, hc.2, Nat.le_refl _, l, hitems, by omega⟩
      all_goals cases h
    next => split at h <;> cases h
  next => split at h <;> (try split at h) <;> cases h

/-- likewise a fixed-size array; any item type exactly when there is no `items` -/
theorem array_len (v : ArrV) (n : Nat) (a : Bool) (h : convertArray v = .array n a) :
    v.maxItems = some n ∧ v.minItems = some n ∧ 0 < n ∧ (a = true ↔ v.items = .none) := by
  unfold convertArray at h
  split at h
  · cases h
  split at h
  next mx mn hmx hmn _ =>
    split at h
    next hc =>
      simp only [Bool.and_eq_true, beq_iff_eq, decide_eq_true_eq] at hc
      split at h
      next => split at h <;> cases h
      next hitems => cases h; exact ⟨hmx, hc.1 ▸ hmn, hc.2, by simp [hitems]⟩
      next hitems => cases h; exact ⟨hmx, hc.1 ▸ hmn, hc.2, by simp [hitems]⟩
    next => split at h <;> cases h
  next => split at h <;> (try split at h) <;> cases h

/-- positional `items` without a fixed positive length are rejected, never turned into a `Vec` -/
theorem positional_items_need_fixed_length (v : ArrV) (k : Nat) (hi : v.items = .list k)
    (hne : ¬ (v.maxItems = v.minItems ∧ (∃ n, v.maxItems = some n ∧ 0 < n) ∧ v.unique = none ∧ v.contains = false)) :
    convertArray v = .invalid := by
  unfold convertArray
  split
  · rfl
  next hct =>
    split
    next mx mn hmx hmn huq =>
      split
      next hc =>
        simp only [Bool.and_eq_true, beq_iff_eq, decide_eq_true_eq] at hc
        exact absurd ⟨hmx.trans (hc.1 ▸ hmn.symm), ⟨mx, hmx, hc.2⟩, huq, by simpa using hct⟩ hne
      next => rw [hi]
    next => rw [hi]

example : convertArray { items := .list 2, maxItems := some 2, minItems := some 2 } = .tuple 2 2 false := by decide +kernel
example : convertArray { items := .list 1, additional := true, maxItems := some 3, minItems := some 3 } = .tuple 3 1 true := by decide +kernel
example : convertArray { items := .single, unique := some true } = .set false := by decide +kernel

end TypifyModel.C05A
