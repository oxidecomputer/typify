import TypifyModel.Model.RustExt
import TypifyModel.Proofs.Lemmas.SemverLemmas
import TypifyModel.Proofs.Lemmas.RustExtLemmas
/-! # C13 — x-rust-type substitution policy

Property theorems over the model of `convert_rust_extension` (`RustExt.decide`) and of the semver
crate's matcher (`Semver.matchesReq`). The declarative side of `semver_spec_*` is Cargo's
documented reading of a version requirement: each comparator is a half-open interval of versions,
ordered lexicographically on (major, minor, patch) and then by pre-release precedence. -/
namespace TypifyModel.C13
open TypifyModel TypifyModel.Semver TypifyModel.RustExt

/-- **ext_policy.** For a well-formed extension (the requirement parses, the path starts with the
    crate's identifier followed by `::`) the external type is substituted exactly when the crate is
    configured with `*` or with a version satisfying the requirement, or the crate is unconfigured
    and the unknown-crate policy is Allow. (So `!`, a non-matching version, and unconfigured under
    Generate or Deny all generate.) -/
theorem ext_policy (cfg : Cfg) (e : Ext) (req : Req) (rest : List Char)
    (hreq : parseReq e.version = some req)
    (hpath : splitSep e.path.toList = some (replaceDash e.crate.toList, rest)) :
    (RustExt.decide cfg e).isSome = true ↔
      (∃ spec, cfg.lookup e.crate = some spec ∧
        (spec.vers = .any ∨ ∃ v, spec.vers = .version v ∧ matchesReq req v = true))
      ∨ (cfg.lookup e.crate = none ∧ cfg.unknown = .allow) := by
  rw [← admitCrate_isSome]
  unfold RustExt.decide
  simp only [hreq, hpath]
  cases admitCrate cfg e.crate req <;> simp

example : (RustExt.decide { crates := [("my-util", { vers := .version ⟨1, 4, 0, []⟩, rename := some "new-util" })] }
    { crate := "my-util", version := ">=1.2.3, <2", path := "my_util::a::Thing" })
    = some "::new_util::a::Thing" := by decide +kernel

/-- the three generating configurations, spelled out -/
theorem ext_policy_generate (cfg : Cfg) (e : Ext) :
    (∃ spec, cfg.lookup e.crate = some spec ∧ spec.vers = .never)
    ∨ (∃ spec v req, cfg.lookup e.crate = some spec ∧ spec.vers = .version v ∧
        parseReq e.version = some req ∧ matchesReq req v = false)
    ∨ (cfg.lookup e.crate = none ∧ (cfg.unknown = .generate ∨ cfg.unknown = .deny)) →
    RustExt.decide cfg e = none := by
  intro h
  refine Option.eq_none_iff_forall_ne_some.mpr fun p hp => ?_
  obtain ⟨req, _, sp, hr, _, ha, _⟩ := (decide_eq_some_iff ..).mp hp
  have := (admitCrate_isSome cfg e.crate req).mp (ha ▸ rfl)
  rcases h with ⟨spec, hl, hv⟩ | ⟨spec, v, req', hl, hv, hr', hm⟩ | ⟨hl, hu⟩
  · simp [hl, hv] at this
  · cases hr.symm.trans hr'
    simp [hl, hv, hm] at this
  · rcases hu with hu | hu <;> simp [hl, hu] at this

example : RustExt.decide { crates := [("util", { vers := .never })], unknown := .allow }
    { crate := "util", version := "*", path := "util::Thing" } = none := by decide +kernel

/-- **ext_malformed.** A requirement that does not parse, a path without `::`, or a path whose
    text before the first `::` is not the crate's identifier (`-` replaced by `_`) → generated. -/
theorem ext_malformed (cfg : Cfg) (e : Ext)
    (h : parseReq e.version = none
       ∨ (∀ rest, splitSep e.path.toList ≠ some (replaceDash e.crate.toList, rest))) :
    RustExt.decide cfg e = none := by
  refine Option.eq_none_iff_forall_ne_some.mpr fun p hp => ?_
  obtain ⟨req, rest, _, hr, hs, _⟩ := (decide_eq_some_iff ..).mp hp
  rcases h with h | h
  · cases hr.symm.trans h
  · exact h rest hs

example : RustExt.decide { unknown := .allow } { crate := "my-util", version := "1", path := "my-util::Thing" } = none := by
  decide +kernel
example : parseReq "1.2-alpha" = none := by decide +kernel

/-- **ext_path.** When substituted, the native path is `::` ++ first ++ rest where `rest` is the
    extension's path from its first `::` on and `first` is the configured rename with `-` → `_`,
    or else the path's own first segment (which is the crate's identifier). -/
theorem ext_path (cfg : Cfg) (e : Ext) (p : String) (h : RustExt.decide cfg e = some p) :
    ∃ first rest, splitSep e.path.toList = some (replaceDash e.crate.toList, rest)
      ∧ e.path.toList = replaceDash e.crate.toList ++ rest
      ∧ startsSep rest = true
      ∧ first = (match (cfg.lookup e.crate).bind (·.rename) with
                 | some r => replaceDash r.toList
                 | none => replaceDash e.crate.toList)
      ∧ p = String.ofList (':' :: ':' :: (first ++ rest)) := by
  obtain ⟨req, rest, sp, _, hs, ha, rfl⟩ := (decide_eq_some_iff ..).mp h
  refine ⟨_, rest, hs, (splitSep_some hs).1, (splitSep_some hs).2, rfl, ?_⟩
  rw [((admitCrate_eq_some_iff ..).mp ha).1]
  cases (cfg.lookup e.crate).bind (·.rename) with
  | some r => rfl
  | none => simp only [(splitSep_some hs).1]

/-- Deny behaves like Generate (the property's reading of the `TODO` in the code) -/
theorem ext_deny_eq_generate (crates : List (String × CrateSpec)) (e : Ext) :
    RustExt.decide { crates, unknown := .deny } e = RustExt.decide { crates, unknown := .generate } e := by
  unfold RustExt.decide admitCrate Cfg.lookup
  rfl

/-- **ext_def** (the modelled part of "the path stands for the schema wherever it is used"): a
    named definition that is substituted is either the native path itself, or a newtype carrying
    the definition's name around it, the latter only when the definition's name differs from the
    path's last segment and there are no type parameters; parameters are applied in order. -/
theorem ext_def (cfg : Cfg) (key : String) (e : Ext) (ps : List String) :
    (RustExt.decide cfg e = none ∧ decideDef cfg key e ps = .generate)
    ∨ ∃ p, RustExt.decide cfg e = some p ∧
        ((decideDef cfg key e ps = .use (renderNative p ps) ∧ (ps ≠ [] ∨ key = lastSeg p))
         ∨ (decideDef cfg key e ps = .wrap key (renderNative p ps) ∧ ps = [] ∧ key ≠ lastSeg p)) := by
  unfold decideDef
  cases RustExt.decide cfg e with
  | none => exact .inl ⟨rfl, rfl⟩
  | some p =>
    refine .inr ⟨p, rfl, ?_⟩
    by_cases hn : nameMatch key p ps.length = true
    · exact .inl ⟨if_pos hn, RustExt.nameMatch_iff.mp hn⟩
    · refine .inr ⟨if_neg hn, ?_⟩
      simpa [RustExt.nameMatch_iff] using hn

example : decideDef { unknown := .allow } "Other" { crate := "util", version := "1", path := "util::Thing" } []
    = .wrap "Other" "::util::Thing" := by decide +kernel
example : decideDef { unknown := .allow } "Thing" { crate := "util", version := "1", path := "util::Thing" } ["i64", "Gizmo"]
    = .use "::util::Thing<i64,Gizmo,>" := by decide +kernel

/-- (major, minor, patch), ordered lexicographically -/
abbrev T3 := Nat × Nat × Nat
def lt3 (a b : T3) : Prop :=
  a.1 < b.1 ∨ (a.1 = b.1 ∧ (a.2.1 < b.2.1 ∨ (a.2.1 = b.2.1 ∧ a.2.2 < b.2.2)))
def le3 (a b : T3) : Prop := lt3 a b ∨ a = b
def triple (v : Version) : T3 := (v.major, v.minor, v.patch)

/-- precedence of versions: the triple first, then the pre-release tag (a release is above all of
    its pre-releases) -/
def vlt (a b : Version) : Prop :=
  lt3 (triple a) (triple b) ∨ (triple a = triple b ∧ cmpPre a.pre b.pre = .lt)
def vle (a b : Version) : Prop := vlt a b ∨ a = b

/-- a partial version as written in a requirement: `I`, `I.J` (also `I.J.*`), `I.J.K` -/
inductive PV
  | major (I : Nat)
  | minor (I J : Nat)
  | full (I J K : Nat)

/-- the comparator the parser builds for `op` applied to a partial version (no pre-release) -/
@[reducible] def PV.cmp (op : Op) : PV → Comparator
  | .major I => { op, major := I, minor := none, patch := none }
  | .minor I J => { op, major := I, minor := some J, patch := none }
  | .full I J K => { op, major := I, minor := some J, patch := some K }

/-- smallest version the partial stands for -/
def PV.lo : PV → T3
  | .major I => (I, 0, 0)
  | .minor I J => (I, J, 0)
  | .full I J K => (I, J, K)
/-- first version above everything the partial stands for -/
def PV.next : PV → T3
  | .major I => (I + 1, 0, 0)
  | .minor I J => (I, J + 1, 0)
  | .full I J K => (I, J, K + 1)
/-- Cargo: "an update is allowed if it does not modify the left-most non-zero component" -/
def PV.caretUpper : PV → T3
  | .major I => (I + 1, 0, 0)
  | .minor I J => if I > 0 then (I + 1, 0, 0) else (0, J + 1, 0)
  | .full I J K => if I > 0 then (I + 1, 0, 0) else if J > 0 then (0, J + 1, 0) else (0, 0, K + 1)
/-- Cargo: `~I.J.K` and `~I.J` allow patch-level changes, `~I` minor-level changes -/
def PV.tildeUpper : PV → T3
  | .major I => (I + 1, 0, 0)
  | .minor I J => (I, J + 1, 0)
  | .full I J _ => (I, J + 1, 0)

/-- Cargo's table (specifying-dependencies, "Version requirement syntax") on release versions -/
def specRelease (op : Op) (p : PV) (t : T3) : Prop :=
  match op with
  | .caret => le3 p.lo t ∧ lt3 t p.caretUpper
  | .tilde => le3 p.lo t ∧ lt3 t p.tildeUpper
  | .exact => le3 p.lo t ∧ lt3 t p.next
  | .wildcard => le3 p.lo t ∧ lt3 t p.next
  | .greater => le3 p.next t
  | .greaterEq => le3 p.lo t
  | .less => lt3 t p.lo
  | .lessEq => lt3 t p.next

theorem cmpPre_nil : cmpPre [] [] = .eq := rfl

theorem lt3_irrefl (a : T3) : ¬ lt3 a a := by
  unfold lt3; omega

theorem lt3_trans {a b c : T3} (h₁ : lt3 a b) (h₂ : lt3 b c) : lt3 a c := by
  unfold lt3 at *; omega

theorem lt3_trichotomy (a b : T3) : lt3 a b ∨ a = b ∨ lt3 b a := by
  obtain ⟨a₁, a₂, a₃⟩ := a
  obtain ⟨b₁, b₂, b₃⟩ := b
  simp only [lt3, Prod.mk.injEq]
  omega

theorem lex3_iff {x₁ x₂ x₃ y₁ y₂ y₃ : Nat} {R : Prop} :
    (x₁ < y₁ ∨ x₁ = y₁ ∧ (x₂ < y₂ ∨ x₂ = y₂ ∧ (x₃ < y₃ ∨ x₃ = y₃ ∧ R))) ↔
      lt3 (x₁, x₂, x₃) (y₁, y₂, y₃) ∨ ((x₁, x₂, x₃) = (y₁, y₂, y₃) ∧ R) := by
  simp only [lt3, Prod.mk.injEq, and_or_left, or_assoc, and_assoc]

theorem le3_iff {x₁ x₂ x₃ y₁ y₂ y₃ : Nat} :
    le3 (x₁, x₂, x₃) (y₁, y₂, y₃) ↔ x₁ < y₁ ∨ x₁ = y₁ ∧ (x₂ < y₂ ∨ x₂ = y₂ ∧ x₃ ≤ y₃) := by
  rw [Nat.le_iff_lt_or_eq, ← and_true (x₃ = y₃), lex3_iff, and_true]
  rfl

/-- eval.rs has `>=` as "`=` or `>`" -/
theorem le3_iff_of_lt3 {x y : T3} (h : lt3 x y) (t : T3) :
    le3 x t ↔ (le3 x t ∧ lt3 t y) ∨ le3 y t := by
  constructor
  · intro hx
    rcases lt3_trichotomy t y with ht | ht | ht
    · exact .inl ⟨hx, ht⟩
    · exact .inr (.inr ht.symm)
    · exact .inr (.inl ht)
  · rintro (⟨hx, _⟩ | hy | rfl)
    · exact hx
    · exact .inl (lt3_trans h hy)
    · exact .inl h

theorem lt3_iff_of_lt3 {x y : T3} (h : lt3 x y) (t : T3) :
    lt3 t y ↔ (le3 x t ∧ lt3 t y) ∨ lt3 t x := by
  constructor
  · intro hy
    rcases lt3_trichotomy x t with ht | ht | ht
    · exact .inl ⟨.inl ht, hy⟩
    · exact .inl ⟨.inr ht, hy⟩
    · exact .inr ht
  · rintro (⟨_, hy⟩ | hx)
    · exact hy
    · exact lt3_trans hx h

theorem PV.cmp_op (op : Op) (p : PV) : (p.cmp op).op = op := by
  cases p <;> rfl

theorem PV.lo_lt_next (p : PV) : lt3 p.lo p.next := by
  cases p <;> simp [lt3, PV.lo, PV.next]

/-- a full comparator `op I.J.K-pre` read as a version -/
def asVersion (I J K : Nat) (pre : Pre) : Version := { major := I, minor := J, patch := K, pre }

theorem version_eq_iff (a b : Version) : a = b ↔ triple a = triple b ∧ a.pre = b.pre := by
  cases a; cases b; simp [triple, and_assoc]

theorem vle_iff (a b : Version) :
    vle a b ↔ a.major < b.major ∨ a.major = b.major ∧ (a.minor < b.minor ∨ a.minor = b.minor ∧
      (a.patch < b.patch ∨ a.patch = b.patch ∧ (cmpPre a.pre b.pre = .lt ∨ a.pre = b.pre))) := by
  rw [lex3_iff]
  simp only [vle, vlt, version_eq_iff, and_or_left, or_assoc, triple]

theorem vle_release (I J K a b c : Nat) :
    vle (asVersion I J K []) ⟨a, b, c, []⟩ ↔ le3 (I, J, K) (a, b, c) := by
  simp [vle_iff, le3_iff, asVersion, cmpPre_nil, Nat.le_iff_lt_or_eq]

/-- a component on which lower and upper bound agree is pinned; the tails go on -/
theorem lex_pin {x y : Nat} {P Q : Prop} :
    (x < y ∨ x = y ∧ P) ∧ (y < x ∨ y = x ∧ Q) ↔ y = x ∧ P ∧ Q := by
  by_cases hP : P <;> by_cases hQ : Q <;>
    simp only [hP, hQ, and_true, and_false, or_false, iff_false] <;> omega

theorem lex_bump {x y : Nat} {P : Prop} :
    (x < y ∨ x = y ∧ P) ∧ y < x + 1 ↔ y = x ∧ P := by
  by_cases hP : P <;> simp only [hP, and_true, and_false, or_false, iff_false] <;> omega

section Full
variable (op : Op) (I J K : Nat) (pre : Pre) (v : Version)

theorem matchesExact_full :
    matchesExact { op, major := I, minor := some J, patch := some K, pre } v = true
      ↔ v = asVersion I J K pre := by
  simp only [matchesExact, ite_false_left, decide_eq_true_eq, Decidable.not_not, version_eq_iff,
    asVersion, triple, Prod.mk.injEq, and_assoc]

theorem matchesGreater_full :
    matchesGreater { op, major := I, minor := some J, patch := some K, pre } v = true
      ↔ vlt (asVersion I J K pre) v := by
  simp only [matchesGreater, ite_ne_gt, beq_iff_eq, cmpPre_strict.gt, lex3_iff]
  rfl

theorem matchesLess_full :
    matchesLess { op, major := I, minor := some J, patch := some K, pre } v = true
      ↔ vlt v (asVersion I J K pre) := by
  simp only [matchesLess, ite_ne_lt, beq_iff_eq, lex3_iff]
  rfl

theorem matchesTilde_full :
    matchesTilde { op, major := I, minor := some J, patch := some K, pre } v = true
      ↔ vle (asVersion I J K pre) v ∧ lt3 (triple v) (I, J + 1, 0) := by
  simp only [matchesTilde, ite_false_left, ite_ne_gt, Decidable.not_not, preGe_iff, vle_iff,
    asVersion, triple, lt3, lex_pin, lex_bump, Nat.not_lt_zero, and_false, or_false]

/-- the zeros of `PV.caretUpper` written as the components they are: the form `lex_pin` needs -/
theorem PV.caretUpper_full :
    PV.caretUpper (.full I J K)
      = if I > 0 then (I + 1, 0, 0) else if J > 0 then (I, J + 1, 0) else (I, J, K + 1) := by
  by_cases hI : I > 0 <;> by_cases hJ : J > 0 <;> simp [PV.caretUpper, hI, hJ] <;> omega

theorem matchesCaret_full :
    matchesCaret { op, major := I, minor := some J, patch := some K, pre } v = true
      ↔ vle (asVersion I J K pre) v ∧ lt3 (triple v) (PV.caretUpper (.full I J K)) := by
  by_cases hI : I > 0 <;> by_cases hJ : J > 0 <;>
    simp only [matchesCaret, PV.caretUpper_full, hI, hJ, if_true, if_false, ite_false_left, ite_ne_gt,
      Decidable.not_not, not_or, preGe_iff, vle_iff, asVersion, triple, lt3, lex_pin, lex_bump,
      Nat.not_lt_zero, and_false, or_false, and_assoc]

end Full

section Release
variable (op : Op) (p : PV) (a b c : Nat)

theorem preGe_release (I : Nat) (mi pa : Option Nat) :
    preGe ⟨a, b, c, []⟩ ⟨op, I, mi, pa, []⟩ = true := rfl

theorem matchesExact_release :
    matchesExact (p.cmp op) ⟨a, b, c, []⟩ = true ↔ le3 p.lo (a, b, c) ∧ lt3 (a, b, c) p.next := by
  cases p <;>
    simp only [matchesExact, ite_false_left, decide_eq_true_eq, and_true, PV.lo, PV.next, le3_iff, lt3,
      lex_pin, lex_bump, Nat.not_lt_zero, and_false, or_false] <;>
    omega

theorem matchesGreater_release :
    matchesGreater (p.cmp op) ⟨a, b, c, []⟩ = true ↔ le3 p.next (a, b, c) := by
  cases p <;>
    simp only [matchesGreater, ite_ne_gt, cmpPre_nil, beq_iff_eq, reduceCtorEq, and_false, or_false,
      PV.next, le3_iff] <;>
    omega

theorem matchesLess_release :
    matchesLess (p.cmp op) ⟨a, b, c, []⟩ = true ↔ lt3 (a, b, c) p.lo := by
  cases p <;>
    simp only [matchesLess, ite_ne_lt, cmpPre_nil, beq_iff_eq, reduceCtorEq, and_false, or_false,
      PV.lo, lt3] <;>
    omega

theorem matchesTilde_release :
    matchesTilde (p.cmp op) ⟨a, b, c, []⟩ = true ↔
      le3 p.lo (a, b, c) ∧ lt3 (a, b, c) p.tildeUpper := by
  cases p <;>
    simp only [matchesTilde, ite_false_left, ite_ne_gt, preGe_release, and_true, PV.lo,
      PV.tildeUpper, le3_iff, lt3,
      lex_pin, lex_bump, Nat.not_lt_zero, and_false, or_false] <;>
    omega

theorem matchesCaret_release :
    matchesCaret (p.cmp op) ⟨a, b, c, []⟩ = true ↔
      le3 p.lo (a, b, c) ∧ lt3 (a, b, c) p.caretUpper := by
  cases p with
  | major I =>
    simp only [matchesCaret, ite_false_left, and_true, PV.lo, PV.caretUpper, le3_iff, lt3]
    omega
  | minor I J =>
    by_cases hI : I > 0 <;>
      simp only [matchesCaret, hI, ite_false_left, decide_eq_true_eq, if_true, if_false, PV.lo,
        PV.caretUpper, le3_iff, lt3] <;>
      omega
  | full I J K => exact (matchesCaret_full op I J K [] _).trans (and_congr_left' (vle_release ..))

end Release

/-- **semver_spec (release versions).** For every operator, every partial or full version in the
    requirement and every release version, the operational matcher of eval.rs agrees with the
    interval of Cargo's table. No bound on any component. -/
theorem semver_spec_release (op : Op) (p : PV) (v : Version) (hv : v.pre = []) :
    matchesImpl (p.cmp op) v = true ↔ specRelease op p (triple v) := by
  obtain ⟨a, b, c, pre⟩ := v
  cases hv
  cases op <;> simp only [matchesImpl, PV.cmp_op, specRelease, triple, Bool.or_eq_true, matchesExact_release,
    matchesGreater_release, matchesLess_release, matchesTilde_release, matchesCaret_release]
  · exact (le3_iff_of_lt3 p.lo_lt_next _).symm
  · exact (lt3_iff_of_lt3 p.lo_lt_next _).symm

example : matchesImpl (PV.cmp .caret (.full 0 2 3)) ⟨0, 2, 9, []⟩ = true := by decide +kernel

/-- Cargo's table for a comparator with all three components (and possibly a pre-release tag), on
    any version: lower bounds and explicit bounds in precedence order; the *implied* upper bound of
    `^` and `~` is a bound on the triple (so it also excludes the pre-releases of the next breaking
    version, as the semver crate does). -/
def specFull (op : Op) (c v : Version) : Prop :=
  match op with
  | .caret => vle c v ∧ lt3 (triple v) (PV.caretUpper (.full c.major c.minor c.patch))
  | .tilde => vle c v ∧ lt3 (triple v) (c.major, c.minor + 1, 0)
  | .exact => v = c
  | .wildcard => v = c
  | .greater => vlt c v
  | .greaterEq => vle c v
  | .less => vlt v c
  | .lessEq => vle v c

/-- **semver_spec (full comparators, any version, pre-release tags on either side).** -/
theorem semver_spec_full (op : Op) (I J K : Nat) (pre : Pre) (v : Version) :
    matchesImpl { op, major := I, minor := some J, patch := some K, pre } v = true
      ↔ specFull op (asVersion I J K pre) v := by
  cases op
  case exact | wildcard => exact matchesExact_full ..
  case greater => exact matchesGreater_full ..
  case less => exact matchesLess_full ..
  case tilde => exact matchesTilde_full ..
  case caret => exact matchesCaret_full ..
  case greaterEq =>
    simp only [matchesImpl, Bool.or_eq_true, matchesExact_full, matchesGreater_full]
    exact or_comm.trans (or_congr_right eq_comm)
  case lessEq =>
    simp only [matchesImpl, Bool.or_eq_true, matchesExact_full, matchesLess_full]
    exact or_comm

example : matchesImpl { op := .greaterEq, major := 1, minor := some 2, patch := some 3, pre := [.str "alpha".toList] }
    ⟨1, 2, 3, [.str "beta".toList]⟩ = true := by decide +kernel

/-- **semver_spec (requirements, release versions).** A requirement is the conjunction of its
    comparators; on a release version nothing else is consulted. -/
theorem semver_spec_req (ps : List (Op × PV)) (v : Version) (hv : v.pre = []) :
    matchesReq (ps.map fun q => q.2.cmp q.1) v = true
      ↔ ∀ op p, (op, p) ∈ ps → specRelease op p (triple v) := by
  simp only [matchesReq, hv, List.isEmpty_nil, Bool.true_or, Bool.and_true, List.all_map,
    List.all_eq_true, Function.comp, semver_spec_release _ _ v hv, Prod.forall]

theorem matchesReq_single (op : Op) (p : PV) (v : Version) (hv : v.pre = []) :
    matchesReq [p.cmp op] v = true ↔ specRelease op p (triple v) := by
  simpa using semver_spec_req [(op, p)] v hv

/-- README: "`>=0.1.0, <1.0.0` says that the type will remain compatible from 0.1.0 until 1.0.0" -/
example : parseReq ">=0.1.0, <1.0.0" = some ([(Op.greaterEq, PV.full 0 1 0), (Op.less, PV.full 1 0 0)].map fun q => q.2.cmp q.1) := by
  decide +kernel

/-- **semver_pre_rule.** A pre-release version satisfies a requirement only if, besides every
    comparator holding, some comparator names the same major.minor.patch and itself carries a
    pre-release tag. -/
theorem semver_pre_rule (r : Req) (v : Version) (hv : v.pre ≠ []) :
    matchesReq r v = true ↔
      (∀ c ∈ r, matchesImpl c v = true) ∧
      ∃ c ∈ r, c.major = v.major ∧ c.minor = some v.minor ∧ c.patch = some v.patch ∧ c.pre ≠ [] := by
  unfold matchesReq preIsCompatible
  have : v.pre.isEmpty = false := by cases h : v.pre <;> simp_all
  simp [this, List.all_eq_true, List.any_eq_true, and_assoc]

/-- consequently a requirement without pre-release tags never admits a pre-release version -/
theorem semver_pre_excluded (r : Req) (v : Version) (hv : v.pre ≠ []) (hr : ∀ c ∈ r, c.pre = []) :
    matchesReq r v = false := by
  cases h : matchesReq r v with
  | false => rfl
  | true =>
    obtain ⟨_, c, hc, _, _, _, hp⟩ := (semver_pre_rule r v hv).mp h
    exact absurd (hr c hc) hp

example : matchesReq [PV.cmp .caret (.full 1 2 3)] ⟨1, 3, 0, [.str "rc".toList, .num 1]⟩ = false := by decide +kernel
example : matchesReq [{ op := .caret, major := 1, minor := some 2, patch := some 3, pre := [.num 0] }]
    ⟨1, 2, 3, [.str "rc".toList, .num 1]⟩ = true := by decide +kernel

/-- `^I.J.K := >=I.J.K, <(I+1).0.0` if `I>0`; `<0.(J+1).0` if `J>0`; `<0.0.(K+1)` otherwise -/
theorem semver_caret (I J K a b c : Nat) :
    matchesReq [{ op := .caret, major := I, minor := some J, patch := some K }] ⟨a, b, c, []⟩ = true ↔
      le3 (I, J, K) (a, b, c) ∧
      lt3 (a, b, c) (if I > 0 then (I + 1, 0, 0) else if J > 0 then (0, J + 1, 0) else (0, 0, K + 1)) :=
  matchesReq_single .caret (.full I J K) ⟨a, b, c, []⟩ rfl

/-- the bare form is the caret form: `1.2.3` is `^1.2.3` -/
example : parseReq "1.2.3" = parseReq "^1.2.3" ∧
    parseReq "^1.2.3" = some [{ op := .caret, major := 1, minor := some 2, patch := some 3 }] := by decide +kernel

/-- `~I.J.K := >=I.J.K, <I.(J+1).0`, `~I.J := >=I.J.0, <I.(J+1).0`, `~I := >=I.0.0, <(I+1).0.0` -/
theorem semver_tilde (I J K a b c : Nat) :
    (matchesReq [{ op := .tilde, major := I, minor := some J, patch := some K }] ⟨a, b, c, []⟩ = true ↔
      le3 (I, J, K) (a, b, c) ∧ lt3 (a, b, c) (I, J + 1, 0))
    ∧ (matchesReq [{ op := .tilde, major := I, minor := some J, patch := none }] ⟨a, b, c, []⟩ = true ↔
      le3 (I, J, 0) (a, b, c) ∧ lt3 (a, b, c) (I, J + 1, 0))
    ∧ (matchesReq [{ op := .tilde, major := I, minor := none, patch := none }] ⟨a, b, c, []⟩ = true ↔
      le3 (I, 0, 0) (a, b, c) ∧ lt3 (a, b, c) (I + 1, 0, 0)) :=
  ⟨matchesReq_single .tilde (.full I J K) ⟨a, b, c, []⟩ rfl,
    matchesReq_single .tilde (.minor I J) ⟨a, b, c, []⟩ rfl,
    matchesReq_single .tilde (.major I) ⟨a, b, c, []⟩ rfl⟩

example : parseReq "~1.2" = some [{ op := .tilde, major := 1, minor := some 2, patch := none }] := by decide +kernel

/-- `*` (no comparators) admits every release version and no pre-release version; `I.*` and
    `I.J.*` are the intervals of the partial version -/
theorem semver_star (I J : Nat) (v : Version) :
    (matchesReq [] v = true ↔ v.pre = [])
    ∧ (v.pre = [] → (matchesReq [{ op := .wildcard, major := I, minor := none, patch := none }] v = true ↔
        le3 (I, 0, 0) (triple v) ∧ lt3 (triple v) (I + 1, 0, 0)))
    ∧ (v.pre = [] → (matchesReq [{ op := .wildcard, major := I, minor := some J, patch := none }] v = true ↔
        le3 (I, J, 0) (triple v) ∧ lt3 (triple v) (I, J + 1, 0))) := by
  refine ⟨?_, matchesReq_single .wildcard (.major I) v, matchesReq_single .wildcard (.minor I J) v⟩
  cases h : v.pre <;> simp [matchesReq, h]

example : parseReq "*" = some [] ∧ parseReq "1.*" = some [{ op := .wildcard, major := 1, minor := none, patch := none }]
    ∧ parseReq "1.2.x" = some [{ op := .wildcard, major := 1, minor := some 2, patch := none }] := by decide +kernel

/-- **pre_order.** Pre-release precedence (`Ord for Prerelease`) is a strict total order with the
    release on top; numeric identifiers compare by value and sort below alphanumeric ones; a
    longer tag wins when it extends a shorter one. -/
theorem pre_order :
    (∀ a b : Pre, cmpPre a b = .eq ↔ a = b)
    ∧ (∀ a b : Pre, cmpPre a b = .gt ↔ cmpPre b a = .lt)
    ∧ (∀ a b c : Pre, cmpPre a b = .lt → cmpPre b c = .lt → cmpPre a c = .lt)
    ∧ (∀ a : Pre, a ≠ [] → cmpPre a [] = .lt)
    ∧ (∀ m n : Nat, cmpPre [.num m] [.num n] = .lt ↔ m < n)
    ∧ (∀ (n : Nat) (s : List Char), cmpPre [.num n] [.str s] = .lt)
    ∧ (∀ (x : Ident) (a : Pre), cmpPre [x] (x :: x :: a) = .lt) := by
  refine ⟨fun _ _ => cmpPre_strict.eq, fun _ _ => cmpPre_strict.gt, fun _ _ _ => cmpPre_strict.trans,
    ?_, ?_, ?_, ?_⟩
  · intro a h
    cases a
    · exact absurd rfl h
    · rfl
  · intro m n
    rw [← Nat.compare_eq_lt, ← cmpNat_eq_compare]
    simp only [cmpPre, cmpIdents, cmpIdent]
    cases cmpNat m n <;> simp
  · intro n s; rfl
  · intro x a; simp only [cmpPre, cmpIdents, cmpIdent_strict.refl]

/-- version precedence is a strict total order -/
theorem version_order :
    (∀ a : Version, ¬ vlt a a)
    ∧ (∀ a b c : Version, vlt a b → vlt b c → vlt a c)
    ∧ (∀ a b : Version, vlt a b ∨ a = b ∨ vlt b a) := by
  refine ⟨?_, ?_, ?_⟩
  · rintro a (h | ⟨_, h⟩)
    · exact lt3_irrefl _ h
    · rw [cmpPre_strict.refl] at h; cases h
  · rintro a b c (h₁ | ⟨e₁, h₁⟩) (h₂ | ⟨e₂, h₂⟩)
    · exact .inl (lt3_trans h₁ h₂)
    · exact .inl (e₂ ▸ h₁)
    · exact .inl (e₁ ▸ h₂)
    · exact .inr ⟨e₁.trans e₂, cmpPre_strict.trans h₁ h₂⟩
  · intro a b
    rcases lt3_trichotomy (triple a) (triple b) with h | e | h
    · exact .inl (.inl h)
    · cases hc : cmpPre a.pre b.pre
      · exact .inl (.inr ⟨e, hc⟩)
      · exact .inr (.inl ((version_eq_iff a b).mpr ⟨e, cmpPre_strict.eq.mp hc⟩))
      · exact .inr (.inr (.inr ⟨e.symm, cmpPre_strict.gt.mp hc⟩))
    · exact .inr (.inr (.inl h))

/-- **semver_parse_covered.** Every comparator of a requirement the parser accepts is of a form the
    specification covers: `op` applied to a partial version without pre-release tag
    (`semver_spec_release`, and `semver_pre_excluded` for pre-release versions), or a comparator
    with all three components (`semver_spec_full`). -/
theorem semver_parse_covered (s : String) (r : Req) (h : parseReq s = some r) :
    ∀ c ∈ r, (∃ op p, c = PV.cmp op p) ∨ (∃ op I J K pre, c = { op, major := I, minor := some J, patch := some K, pre }) := by
  intro c hc
  obtain ⟨h1, h2⟩ := parseReq_shape h c hc
  obtain ⟨op, I, mi, pa, pre⟩ := c
  cases mi with
  | none =>
    cases h1 rfl
    cases h2 rfl
    exact .inl ⟨op, .major I, rfl⟩
  | some J =>
    cases pa with
    | none =>
      cases h2 rfl
      exact .inl ⟨op, .minor I J, rfl⟩
    | some K => exact .inr ⟨op, I, J, K, pre, rfl⟩

example : parseReq ">=1.2.3-rc.1, <2" = some
    [{ op := .greaterEq, major := 1, minor := some 2, patch := some 3, pre := [.str "rc".toList, .num 1] },
     PV.cmp .less (.major 2)] := by decide +kernel

end TypifyModel.C13
