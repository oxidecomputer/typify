import TypifyModel.Proofs.C18
/-! Known finding `C18-eager-default` (KNOWN_FINDINGS.json).

`T::builder()` is `Default::default()` of `builder::T`, which evaluates the default expression of EVERY
property before any setter runs (type_entry.rs:1262-1287). When typify accepted a schema default that the
property's Rust type does not deserialize (a C06 defect; pinned by the fixture
`types-with-defaults.json`: `{"type":"string","format":"uuid","default":"abc123-is-this-a-uuid"}`), the
emitted default function `serde_json::from_str(..).unwrap()` panics — so the builder cannot even be
started, also when the caller sets that very property, while `from_value` of an object that has the
member succeeds without ever calling the default function.

The C18 theorems carve this out by their hypothesis `slots … = .ok sl`. Here: the mechanism predicate,
the full statement with its kernel-checked refutation, and the partial theorem.
This file is *expected* to stop compiling when the finding is repaired (setters-first / lazy defaults). -/
namespace TypifyModel.C18
open TypifyModel TypifyModel.Serde TypifyModel.Builder

/-- mechanism predicate: some property carries a schema default its type does not deserialize -/
def Defect.undeserializableDefault (x : Ext) (σ : Space) (f : Nat) (ps : List Field) : Bool :=
  ps.any fun p =>
    match p.state with
    | .dflt d => (match de x σ f p.ty d with | .error .reject => true | _ => false)
    | _ => false

/-- the builder state a caller expects who sets every property: exactly the setters' outcomes -/
def allSet (choice : Field → Option Arg) (ps : List Field) : List (String × Slot) :=
  ps.map fun p => (p.name, match choice p with | some a => setSlot p.name a | none => .error "")

/-- the full statement: when every property is set through the builder, no default is consulted (as
    `from_value` of the object with all members consults none): with enough fuel the state exists -/
def builder_all_set_full : Prop :=
  ∀ (x : Ext) (σ : Space) (choice : Field → Option Arg) (ps : List Field),
    (∀ p ∈ ps, ∃ a, choice p = some a) → ∃ f, slots x σ f choice ps = .ok (allSet choice ps)

/-- … which holds whenever every default expression evaluates -/
theorem builder_all_set_partial (x : Ext) (σ : Space) (f : Nat) (choice : Field → Option Arg) :
    ∀ (ps : List Field), (∀ p ∈ ps, ∃ s0, initSlot x σ f p = .ok s0) →
      (∀ p ∈ ps, ∃ a, choice p = some a) → slots x σ f choice ps = .ok (allSet choice ps) := by
  intro ps
  induction ps with
  | nil => intro _ _; rfl
  | cons p r ih =>
    intro hd hs
    obtain ⟨s0, hi⟩ := hd p (by simp)
    obtain ⟨a, ha⟩ := hs p (by simp)
    have ihr := ih (fun q hq => hd q (by simp [hq])) (fun q hq => hs q (by simp [hq]))
    simp only [slots, slotOf, hi, ha, ihr, allSet, List.map_cons]

/-- with the defect the builder has no state, whatever setters are called -/
theorem defect_blocks_builder (x : Ext) (σ : Space) (f : Nat) (choice : Field → Option Arg) :
    ∀ (ps : List Field), Defect.undeserializableDefault x σ f ps = true →
      ∃ e, slots x σ f choice ps = .error e := by
  intro ps
  induction ps with
  | nil => intro h; cases h
  | cons p r ih =>
    intro h
    simp only [Defect.undeserializableDefault, List.any_cons, Bool.or_eq_true] at h
    simp only [slots]
    rcases h with h | h
    · split at h
      · split at h
        · rename_i d hst _ hde
          simp only [slotOf, initSlot, hst, hde]
          exact ⟨_, rfl⟩
        · cases h
      · cases h
    · obtain ⟨e, he⟩ := ih h
      rw [he]
      cases slotOf x σ f choice p with
      | ok s => exact ⟨e, rfl⟩
      | error e' => exact ⟨e', rfl⟩

/-! the witness: one boolean property `a` with schema default `"x"`, and the caller sets `a` -/
def witSpace : Space := { entries := [(0, { details := .boolean })], nextId := 1 }
def witProps : List Field := [{ name := "a", rename := .none, state := .dflt (.str "x"), ty := 0 }]
def witChoice : Field → Option Arg := fun _ => some (.value (.bool true))
def witExt : Ext := { regex := fun _ _ => false }

theorem wit_defect (f : Nat) : Defect.undeserializableDefault witExt witSpace (f + 1) witProps = true :=
  rfl

/-- it is false on the current tree (known finding C18-eager-default) -/
theorem builder_all_set_full_false : ¬ builder_all_set_full := by
  intro h
  obtain ⟨f, hf⟩ := h witExt witSpace witChoice witProps (by intro p _; exact ⟨_, rfl⟩)
  cases f with
  | zero => cases hf
  | succ f =>
    obtain ⟨e, he⟩ := defect_blocks_builder witExt witSpace (f + 1) witChoice witProps (wit_defect f)
    rw [he] at hf; cases hf

/-! non-vacuity of the partial theorem: a property with a default that does deserialize -/
example : slots witExt witSpace 1 witChoice [{ name := "a", rename := .none, state := .dflt (.bool false), ty := 0 }]
    = .ok [("a", .ok (.bool true))] := rfl

end TypifyModel.C18
