import TypifyModel.Proofs.C03
import TypifyModel.Proofs.C05Enc
/-! # C03, validity clause for the enforced constraints

"Deserializing a schema-valid instance and serializing it back yields JSON that is again valid under the schema."
For the constraint kinds the generated types enforce this is a corollary of two theorems proved independently:
C03's `roundtrip_value` (what was written reads back) and C05's `enc_sound` (what is read is valid under the enforced
projection of the schema): the round-tripped document `w` is *accepted* by the type, hence not invalid under `validE`.
What this does not give: validity of `w` under constraints the types do not represent (integer ranges, array bounds,
`uniqueItems`, `not`) — the type re-emits the numbers and arrays it read, and the check decides that part per
instance with the independent validator. -/
namespace TypifyModel.C03V
open TypifyModel TypifyModel.Serde TypifyModel.Validate TypifyModel.Enc TypifyModel.RoundTrip

/-- **C03 ∘ C05**: for every reference-closed well-formed set of entries `Sset`, every type `t` in it that enforces the
    schema `s`, every document `v` the type reads and every fuel: the document `w` the type writes back is not invalid
    under the enforced projection of `s`. -/
theorem rt_valid_enforced {x : Serde.Ext} {vx : Validate.Ext} (hreg : ∀ p s, x.regex p s = vx.regex p s)
    {d : Doc} {σ : Space} (rid : String → Option Id) (hall : AllEnc σ rid d)
    (hrid : ∀ k t, rid k = some t → ∃ s, d.get k = some s)
    {Sset : List Id} (hcl : closedOkB σ Sset = true) {t : Id} (ht : t ∈ Sset)
    {fc : Nat} {s : Schema} (he : encB d σ rid fc s t = true)
    (f : Nat) (v : Json) (xv : Val) (w : Json)
    (h1 : de x σ f t v = .ok xv) (h2 : se σ f t xv = .ok w) :
    ∀ g, C05E.NF (validE vx d g s w) :=
  fun g => C05E.enc_sound hreg rid hall hrid g fc s t w xv f he (C03.roundtrip_value x σ Sset hcl ht f v xv w h1 h2)

end TypifyModel.C03V
