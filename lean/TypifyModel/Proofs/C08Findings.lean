import TypifyModel.Proofs.C08
/-! Kernel-checked refutations of the full C08 statements on the current tree (known findings
    C08-field-collision, C08-extra-field-collision, C08-variant-panic, C08-def-collision). Each witness was reproduced
    against the real code (see KNOWN_FINDINGS.json). This file is *expected* to stop compiling
    when a finding is repaired in /repo and the model follows; the check then reports the finding
    as gone instead of raising an alarm. -/
namespace TypifyModel.C08
open TypifyModel TypifyModel.Names

/-- properties `foo-bar` and `foo_bar` both become field `foo_bar` (rustc E0124) -/
theorem fields_distinct_full_false : ¬ fields_distinct_full := by
  obtain ⟨l, ha, hn, hc⟩ : ∃ l, AllAscii l ∧ l.Nodup ∧ ¬ NoFieldCollision l :=
    ⟨["foo-bar".toList, "foo_bar".toList], by
      simp only [NoFieldCollision, sanitize_eq]; decide +kernel⟩
  exact fun h => fields_collide l hc (h l ha hn)

/-- a property named `extra` (or `Extra`, `-extra`, …) next to `additionalProperties: <schema>`
    collides with the flattened map field `extra` (rustc E0124) -/
theorem fields_extra_distinct_full_false : ¬ fields_extra_distinct_full := by
  obtain ⟨l, ha, hn, hc⟩ : ∃ l, AllAscii l ∧ l.Nodup ∧ extraIdent ∈ l.map (sanitize · .snake) :=
    ⟨["Extra".toList], by simp only [sanitize_eq]; decide +kernel⟩
  intro h
  have hx := h l ha hn
  unfold fieldIdentsExtra at hx
  exact (List.nodup_append.mp hx).2.2 _ ((fieldIdents_perm l).mem_iff.mpr hc) _ (by simp) rfl

/-- enum values `a` and `A` both become variant `A` in both naming passes: `panic!`, not `Err` -/
theorem variants_no_panic_full_false : ¬ variants_no_panic_full := by
  obtain ⟨l, ha, hn, hc⟩ : ∃ l, AllAscii l ∧ l.Nodup ∧ variantNames l = .panic :=
    ⟨["a".toList, "A".toList], by
      simp only [variantNames, variantPass1, variantPass2, sanitize_eq]; decide +kernel⟩
  exact fun h => h l ha hn hc

/-- the same with values that differ only in a separator -/
example : variantNames ["a-b".toList, "a_b".toList] = .panic := by
  simp only [variantNames, variantPass1, variantPass2, sanitize_eq]; decide +kernel

/-- definition keys `foo-bar` and `foo_bar` both become item `FooBar` (rustc E0428) -/
theorem defs_distinct_full_false : ¬ defs_distinct_full := by
  obtain ⟨l, ha, hn, hc⟩ : ∃ l, AllAscii l ∧ l.Nodup ∧ ¬ (defNames l).Nodup :=
    ⟨["foo-bar".toList, "foo_bar".toList], by simp only [defNames, sanitize_eq]; decide +kernel⟩
  exact fun h => hc (h l ha hn)

end TypifyModel.C08
