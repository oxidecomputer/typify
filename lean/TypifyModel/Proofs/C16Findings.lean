import TypifyModel.Proofs.C16
/-! Kernel-checked refutations of the full C16 statements on the current tree (known findings
    C16-readd-ref-types, C16-def-key-collision, C16-def-inline-collision, C16-inline-name-capture).
    Every witness history was reproduced against the real code (KNOWN_FINDINGS.json, replayed by
    `./check C16` on every run).  This file is *expected* to stop compiling when a finding is repaired
    in /repo and the model follows. -/
set_option autoImplicit false
namespace TypifyModel.C16
open TypifyModel TypifyModel.Space
open TypifyModel.Names (Str)

def finalOf (r : R (State × List (Option Nat))) : State :=
  match r with
  | .ok (σ, _) => σ
  | .fail _ => Space.init

def resultsOf (r : R (State × List (Option Nat))) : List (Option Nat) :=
  match r with
  | .ok (_, rs) => rs
  | .fail _ => []

def stateOf (r : R State) : State :=
  match r with
  | .ok σ => σ
  | .fail _ => Space.init

theorem eq_ok_of_isOk {r : R (State × List (Option Nat))} (h : R.isOk r = true) :
    r = .ok (finalOf r, resultsOf r) := by
  cases r with
  | ok p => rfl
  | fail f => cases h

def nameAt (σ : State) (i : Nat) : Option Str := (σ.entry i).bind Details.name?

theorem not_noDupDefs {σ : State} {i j : Nat} {n : Str} (hi : nameAt σ i = some n)
    (hj : nameAt σ j = some n) (hne : i ≠ j) : ¬ NoDupDefs σ := by
  obtain ⟨e1, h1, n1⟩ := Option.bind_eq_some_iff.mp hi
  obtain ⟨e2, h2, n2⟩ := Option.bind_eq_some_iff.mp hj
  exact fun hnd => hne (hnd i j e1 e2 n h1 h2 n1 n2)

/-- (a) the same definition key in two `add_ref_types` calls -/
def histReadd : List Call :=
  [.refTypes [("A".toList, .str none)], .refTypes [("A".toList, .str none)]]

def readdOnce : State := stateOf (addRefTypes 3 [("A".toList, .str none)] Space.init)
def readdTwice : State := stateOf (addRefTypes 3 [("A".toList, .str none)] readdOnce)

/-- (b) two keys of one batch that sanitise to one name (C08-def-collision seen from C16) -/
def histKeys : List Call := [.refTypes [("a-b".toList, .str none), ("a_b".toList, .int none)]]

/-- (c) an inline type that takes the name of its own definition -/
def histInline : List Call :=
  [.refTypes [("A".toList, .obj none [("p".toList,
      .obj (some "A".toList) [("q".toList, .str none)] ["q".toList] false)] ["p".toList] false)]]

/-- (d) two inline types with one derived name `T`: `assign_type` reuses BY NAME without comparing
    structure, the first wins, so the order of two calls decides what `T` is -/
def callTa : Call := .typeWithName (.obj (some "T".toList) [("a".toList, .str none)] ["a".toList] false) none
def callTb : Call := .typeWithName (.obj (some "T".toList) [("b".toList, .int none)] ["b".toList] false) none

/-- One evaluation for all witness histories: unpacking the keyword table of `Names.sanitize` is most
    of each, and the kernel does it once per declaration. -/
theorem witnesses :
    (R.isOk (run 3 histReadd Space.init) = true ∧
      nameAt (finalOf (run 3 histReadd Space.init)) 1 = some "A".toList ∧
      nameAt (finalOf (run 3 histReadd Space.init)) 3 = some "A".toList) ∧
    (addRefTypes 3 [("A".toList, .str none)] Space.init = .ok readdOnce ∧
      addRefTypes 3 [("A".toList, .str none)] readdOnce = .ok readdTwice ∧
      readdTwice.nextId ≠ readdOnce.nextId) ∧
    (R.isOk (run 3 histKeys Space.init) = true ∧
      nameAt (finalOf (run 3 histKeys Space.init)) 1 = some "AB".toList ∧
      nameAt (finalOf (run 3 histKeys Space.init)) 2 = some "AB".toList) ∧
    (R.isOk (run 4 histInline Space.init) = true ∧
      nameAt (finalOf (run 4 histInline Space.init)) 1 = some "A".toList ∧
      nameAt (finalOf (run 4 histInline Space.init)) 3 = some "A".toList) ∧
    (R.isOk (run 4 [callTa, callTb] Space.init) = true ∧ R.isOk (run 4 [callTb, callTa] Space.init) = true ∧
      (finalOf (run 4 [callTa, callTb] Space.init)).entry 2
        = some (.struct "T".toList [⟨"a".toList, none, true, 1⟩] false) ∧
      (finalOf (run 4 [callTb, callTa] Space.init)).entry 2
        = some (.struct "T".toList [⟨"b".toList, none, true, 1⟩] false)) ∧
    (resultsOf (run 4 [callTa, callTb] Space.init) = [some 2, some 2] ∧
      resultsOf (run 4 [callTb, callTa] Space.init) = [some 2, some 2]) := by decide +kernel

theorem histReadd_ok : run 3 histReadd Space.init
    = .ok (finalOf (run 3 histReadd Space.init), resultsOf (run 3 histReadd Space.init)) :=
  eq_ok_of_isOk witnesses.1.1

/-- C16-readd-ref-types: `convert_ref_type` inserts the second `A` without looking at `name_to_id`:
    ids 1 and 3 both hold `struct A(String)` -/
theorem no_dup_defs_full_false : ¬ no_dup_defs_full := fun h =>
  have ⟨_, h1, h3⟩ := witnesses.1
  not_noDupDefs h1 h3 (by decide) (h 3 histReadd _ _ histReadd_ok)

set_option maxRecDepth 100000 in
/-- the hypothesis that fails is `DistinctBatches` (at the second call) -/
example : ¬ HistOK 3 histReadd Space.init := fun hok =>
  have ⟨_, h1, h3⟩ := witnesses.1
  not_noDupDefs h1 h3 (by decide) (no_dup_defs_partial histReadd_ok hok)

/-- full statement: adding the same batch again adds no definitions -/
def readd_batch_full : Prop :=
  ∀ (fuel : Nat) (defs : List (Str × Sch)) (σ σ1 σ2 : State), Inv σ → addRefTypes fuel defs σ = .ok σ1 →
    addRefTypes fuel defs σ1 = .ok σ2 → σ2.nextId = σ1.nextId

/-- C16-readd-ref-types, the re-adding clause: the second call allocates a new id -/
theorem readd_batch_full_false : ¬ readd_batch_full := fun h =>
  have ⟨once, twice, hne⟩ := witnesses.2.1
  hne (h 3 _ _ _ _ inv_init once twice)

theorem histKeys_ok : run 3 histKeys Space.init
    = .ok (finalOf (run 3 histKeys Space.init), resultsOf (run 3 histKeys Space.init)) :=
  eq_ok_of_isOk witnesses.2.2.1.1

/-- C16-def-key-collision: ids 1 and 2 are both named `AB` -/
theorem no_dup_defs_keys : ¬ NoDupDefs (finalOf (run 3 histKeys Space.init)) :=
  have ⟨_, h1, h2⟩ := witnesses.2.2.1
  not_noDupDefs h1 h2 (by decide)

set_option maxRecDepth 100000 in
/-- the hypothesis that fails is `NoNameCollision` (its `Nodup` half) -/
example : ¬ NoNameCollision 3 (callDefs (.refTypes [("a-b".toList, .str none), ("a_b".toList, .int none)])) :=
  fun hn => no_dup_defs_keys (no_dup_defs_partial histKeys_ok ⟨⟨fun _ _ => rfl, hn⟩, fun _ _ _ => trivial⟩)

theorem histInline_ok : run 4 histInline Space.init
    = .ok (finalOf (run 4 histInline Space.init), resultsOf (run 4 histInline Space.init)) :=
  eq_ok_of_isOk witnesses.2.2.2.1.1

/-- C16-def-inline-collision: the inline struct `A {q}` (id 3) and the definition `A {p}` (id 1) -/
theorem no_dup_defs_inline : ¬ NoDupDefs (finalOf (run 4 histInline Space.init)) :=
  have ⟨_, h1, h3⟩ := witnesses.2.2.2.1
  not_noDupDefs h1 h3 (by decide)

set_option maxRecDepth 100000 in
/-- the hypothesis that fails is `NoNameCollision` (a definition name among the assigned names) -/
example : ¬ HistOK 4 histInline Space.init := fun hok =>
  no_dup_defs_inline (no_dup_defs_partial histInline_ok hok)

def Details.fieldNames : Details → List Str
  | .struct _ ps _ => ps.map (·.name)
  | _ => []

/-- full statement (a consequence of order-independence of the set of definitions): swapping two
    calls does not change the field names of the definition of any name -/
def perm_defs_full : Prop :=
  ∀ (fuel : Nat) (c1 c2 : Call) (σ12 σ21 : State) (rs rs' : List (Option Nat)),
    run fuel [c1, c2] Space.init = .ok (σ12, rs) → run fuel [c2, c1] Space.init = .ok (σ21, rs') →
    ∀ i j e1 e2 n, σ12.entry i = some e1 → σ21.entry j = some e2 → e1.name? = some n → e2.name? = some n →
      Details.fieldNames e1 = Details.fieldNames e2

/-- C16-inline-name-capture: `T` is `{a}` in one order and `{b}` in the other; the second call
    returns the id of the first type although its schema is different -/
theorem perm_defs_full_false : ¬ perm_defs_full := by
  intro h
  obtain ⟨ab, ba, eab, eba⟩ := witnesses.2.2.2.2.1
  have := h 4 callTa callTb _ _ _ _ (eq_ok_of_isOk ab) (eq_ok_of_isOk ba) 2 2 _ _ "T".toList eab eba rfl rfl
  exact absurd this (by decide)

set_option maxRecDepth 100000 in
/-- both calls return id 2 in either order -/
example : resultsOf (run 4 [callTa, callTb] Space.init) = [some 2, some 2] ∧
    resultsOf (run 4 [callTb, callTa] Space.init) = [some 2, some 2] := witnesses.2.2.2.2.2

end TypifyModel.C16
