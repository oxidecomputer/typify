import TypifyModel.Proofs.Lemmas.MergeTop
/-! # C09 — `allOf` means intersection, independent of order

Model: `Model/Merge.lean` (`tryMerge`, `mergeAll` = merge.rs `try_merge_schema`, `try_merge_all`), over the
JSON-Schema AST and draft-07 validity `Validate.valid` of `Model/Schema.lean`. All theorems quantify over
every document `d` (definitions for `$ref`), every regex semantics `x`, all schemas, all JSON instances and
all fuels; a verdict `valid x d f s v = some b` is independent of the fuel `f` at which it is defined
(`valid_det`), so "`s` accepts `v`" is `∃ f, valid x d f s v = some true`.

`InMerge te d f a b`: the model has an answer (`tryMerge te d f a b ≠ unsup`), i.e. merge.rs does not hit
`unimplemented!`/`todo!`/an unresolved reference and stays inside the modelled shapes. As a hypothesis of the
`tryMerge` theorems it restricts nothing: an `ok` or `never` answer already is one.

The full statements (`merge_inter`, `merge_never`, `merge_all_inter`, `merge_perm`: for *every* answer of
the model) are FALSE on the current tree — merge.rs has defective arms, each reproduced on the real
`merge_all` (KNOWN_FINDINGS.json, `Proofs/C09Findings.lean`). They are kept as `def … : Prop`; the
`…_partial` theorems hold under the decidable hypothesis `GapFree` = "the run went through none of the
arms `Merge.Gap` lists". -/
set_option linter.unusedVariables false
namespace TypifyModel.C09
open TypifyModel TypifyModel.Validate TypifyModel.Merge

/-- `m` accepts exactly the instances `a` and `b` both accept (stated for all fuels at which the three
    verdicts are defined) and has a verdict whenever `a` and `b` have one -/
def IsInter (x : Ext) (d : Doc) (m a b : Schema) : Prop :=
  ∀ (v : Json) (f2 f3 : Nat) (ba bb : Bool), valid x d f2 a v = some ba → valid x d f3 b v = some bb →
    (∃ f1, valid x d f1 m v = some (ba && bb)) ∧
    (∀ f1 bm, valid x d f1 m v = some bm → (bm = true ↔ ba = true ∧ bb = true))

def IsDisj (x : Ext) (d : Doc) (a b : Schema) : Prop :=
  ∀ (v : Json) (f2 f3 : Nat), ¬ (valid x d f2 a v = some true ∧ valid x d f3 b v = some true)

/-- FULL statement (false on the current tree, see C09Findings): every `ok` answer is the intersection -/
def merge_inter : Prop :=
  ∀ (te : Bool) (x : Ext) (d : Doc) (f : Nat) (a b m : Schema) (g : List Gap),
    InMerge te d f a b = true → tryMerge te d f a b = .ok m g → IsInter x d m a b

/-- FULL statement (false on the current tree): every "unsatisfiable" answer is right -/
def merge_never : Prop :=
  ∀ (te : Bool) (x : Ext) (d : Doc) (f : Nat) (a b : Schema) (g : List Gap),
    InMerge te d f a b = true → tryMerge te d f a b = .never g → IsDisj x d a b

def Defined (x : Ext) (d : Doc) (xs : List Schema) (v : Json) : Prop := ∀ s ∈ xs, ∃ f b, valid x d f s v = some b
def AllTrue (x : Ext) (d : Doc) (xs : List Schema) (v : Json) : Prop := ∀ s ∈ xs, ∃ f, valid x d f s v = some true

def IsInterAll (x : Ext) (d : Doc) (m : Schema) (xs : List Schema) : Prop :=
  ∀ v, Defined x d xs v →
    (∃ f1 b, valid x d f1 m v = some b) ∧ (∀ f1 b, valid x d f1 m v = some b → (b = true ↔ AllTrue x d xs v))

/-- FULL statement (false on the current tree) -/
def merge_all_inter : Prop :=
  ∀ (te : Bool) (x : Ext) (d : Doc) (f : Nat) (xs : List Schema) (m : Schema) (g : List Gap),
    mergeAll te d f xs = .ok m g → IsInterAll x d m xs

/-- FULL statement (false on the current tree): permuting the list does not change acceptance -/
def merge_perm : Prop :=
  ∀ (te : Bool) (x : Ext) (d : Doc) (f f' : Nat) (xs ys : List Schema) (m m' : Schema) (g g' : List Gap),
    xs.Perm ys → mergeAll te d f xs = .ok m g → mergeAll te d f' ys = .ok m' g' →
    ∀ v, Defined x d xs v → ∀ f1 f2 b1 b2, valid x d f1 m v = some b1 → valid x d f2 m' v = some b2 → b1 = b2

theorem gaps_nil {r : MR} (hg : r.gaps.isEmpty = true) : (∀ {m g}, r = .ok m g → g = []) ∧ (∀ {g}, r = .never g → g = []) :=
  ⟨fun h => by subst h; exact List.isEmpty_iff.mp hg, fun h => by subst h; exact List.isEmpty_iff.mp hg⟩

theorem isInter_of_Inter {x : Ext} {d : Doc} {m a b : Schema} (h : Inter x d m a b) : IsInter x d m a b := by
  intro v f2 f3 ba bb h2 h3
  obtain ⟨f1, hf1⟩ := h v f2 f3 ba bb h2 h3
  refine ⟨⟨f1, hf1⟩, fun f1' bm hbm => ?_⟩
  rw [valid_det x d hbm hf1, Bool.and_eq_true]

/-- on runs through no defective arm, the merged schema of
    `try_merge_schema` accepts exactly the instances both inputs accept -/
theorem merge_inter_partial (te : Bool) (x : Ext) (d : Doc) (f : Nat) (a b m : Schema) (g : List Gap)
    (hin : InMerge te d f a b = true) (hg : GapFree te d f a b = true) (h : tryMerge te d f a b = .ok m g) :
    IsInter x d m a b := by
  cases (gaps_nil hg).1 h
  have := tryMerge_spec (x := x) (d := d) te f a b
  rw [h] at this
  exact isInter_of_Inter this

/-- on such runs, `Err(())` means no instance satisfies both -/
theorem merge_never_partial (te : Bool) (x : Ext) (d : Doc) (f : Nat) (a b : Schema) (g : List Gap)
    (hin : InMerge te d f a b = true) (hg : GapFree te d f a b = true) (h : tryMerge te d f a b = .never g) :
    IsDisj x d a b := by
  cases (gaps_nil hg).2 h
  have := tryMerge_spec (x := x) (d := d) te f a b
  rw [h] at this
  exact this

/-! `try_merge_all` folds `try_merge_schema` as the `allOf` arm does. -/

theorem mergeAllFrom_eq (te : Bool) (d : Doc) (f : Nat) : ∀ (xs : List Schema) (acc : Schema),
    mergeAllFrom te d f acc xs = foldMerge (tryMerge te d f) acc xs
  | [], _ => rfl
  | y :: r, acc => by rw [mergeAllFrom, foldMerge]; simp only [mergeAllFrom_eq te d f r]

theorem allOf_verdict {x : Ext} {d : Doc} {v : Json} : ∀ {xs : List Schema}, Defined x d xs v →
    ∃ f b, valid x d f (.allOf xs) v = some b ∧ (b = true ↔ AllTrue x d xs v)
  | [], _ => ⟨1, true, rfl, by simp [AllTrue]⟩
  | s :: r, hdef => by
    obtain ⟨fs, bs, hs⟩ := hdef s (.head _)
    obtain ⟨fr, br, hr, hiff⟩ := allOf_verdict (xs := r) fun y hy => hdef y (.tail _ hy)
    obtain ⟨fr', rfl⟩ := ne_zero_of_valid hr
    obtain ⟨F, hF⟩ := allV_cons_ex ⟨fs, hs⟩ ⟨fr', hr⟩
    refine ⟨F + 1, _, hF, ?_⟩
    simp only [Bool.and_eq_true, AllTrue, List.mem_cons, forall_eq_or_imp, hiff]
    exact and_congr_left' ⟨fun h => ⟨fs, h ▸ hs⟩, fun ⟨_, h⟩ => valid_det x d hs h⟩

theorem mergeAll_spec (te : Bool) (x : Ext) (d : Doc) (f : Nat) (a : Schema) (r : List Schema) :
    Spec x d (mergeAll te d f (a :: r)) a (.allOf r) := by
  rw [mergeAll, mergeAllFrom_eq]
  exact foldMerge_spec (tryMerge_spec te f) r a

/-- the result of `merge_all` accepts exactly the instances valid under
    every listed schema -/
theorem merge_all_inter_partial (te : Bool) (x : Ext) (d : Doc) (f : Nat) (xs : List Schema) (m : Schema) (g : List Gap)
    (hg : GapFreeAll te d f xs = true) (h : mergeAll te d f xs = .ok m g) : IsInterAll x d m xs := by
  cases (gaps_nil hg).1 h
  cases xs with
  | nil => cases h
  | cons a r =>
    have hs := mergeAll_spec te x d f a r
    rw [h] at hs
    intro v hdef
    obtain ⟨F, b, hb, hiff⟩ := allOf_verdict hdef
    obtain ⟨fa, fr, ba, br, ha, hr, rfl⟩ := allOf_decomp a r v F _ hb
    obtain ⟨f1, hf1⟩ := hs v fa fr ba br ha hr
    exact ⟨⟨f1, _, hf1⟩, fun f1' b' hb' => valid_det x d hb' hf1 ▸ hiff⟩

/-- `Schema::Bool(false)` from `merge_all` means no instance is valid under
    all listed schemas -/
theorem merge_all_never_partial (te : Bool) (x : Ext) (d : Doc) (f : Nat) (xs : List Schema) (g : List Gap)
    (hg : GapFreeAll te d f xs = true) (h : mergeAll te d f xs = .never g) : ∀ v, ¬ AllTrue x d xs v := by
  cases (gaps_nil hg).2 h
  cases xs with
  | nil => cases h
  | cons a r =>
    have hs := mergeAll_spec te x d f a r
    rw [h] at hs
    intro v hall
    obtain ⟨F, b, hb, hiff⟩ := allOf_verdict fun y hy => (hall y hy).imp fun _ h => ⟨true, h⟩
    obtain ⟨fa, fr, ba, br, ha, hr, hab⟩ := allOf_decomp a r v F _ hb
    obtain ⟨rfl, rfl⟩ := Bool.and_eq_true_iff.mp (hab ▸ hiff.mpr hall)
    exact hs v fa fr ⟨ha, hr⟩

/-! Only the set of listed schemas matters: neither their order nor repetitions. -/

theorem forall_mem_congr {xs ys : List Schema} (hm : ∀ s, s ∈ xs ↔ s ∈ ys) (P : Schema → Prop) :
    (∀ s ∈ xs, P s) ↔ ∀ s ∈ ys, P s :=
  ⟨fun h s hs => h s ((hm s).mpr hs), fun h s hs => h s ((hm s).mp hs)⟩

theorem merge_members_partial {te : Bool} {x : Ext} {d : Doc} {f f' : Nat} {xs ys : List Schema} {m m' : Schema} {g g' : List Gap}
    (hm : ∀ s, s ∈ xs ↔ s ∈ ys) (hg : GapFreeAll te d f xs = true) (hg' : GapFreeAll te d f' ys = true)
    (h : mergeAll te d f xs = .ok m g) (h' : mergeAll te d f' ys = .ok m' g') {v : Json} (hdef : Defined x d xs v)
    {f1 f2 : Nat} {b1 b2 : Bool} (h1 : valid x d f1 m v = some b1) (h2 : valid x d f2 m' v = some b2) : b1 = b2 :=
  have hx := (merge_all_inter_partial te x d f xs m g hg h v hdef).2 f1 b1 h1
  have hy := (merge_all_inter_partial te x d f' ys m' g' hg' h' v ((forall_mem_congr hm _).mp hdef)).2 f2 b2 h2
  Bool.eq_iff_iff.mpr (hx.trans ((forall_mem_congr hm _).trans hy.symm))

theorem merge_members_never_partial {te : Bool} {x : Ext} {d : Doc} {f f' : Nat} {xs ys : List Schema} {m' : Schema} {g g' : List Gap}
    (hm : ∀ s, s ∈ xs ↔ s ∈ ys) (hg : GapFreeAll te d f xs = true) (hg' : GapFreeAll te d f' ys = true)
    (h : mergeAll te d f xs = .never g) (h' : mergeAll te d f' ys = .ok m' g') {v : Json} (hdef : Defined x d xs v)
    (f2 : Nat) : valid x d f2 m' v ≠ some true := fun h2 =>
  have hy := (merge_all_inter_partial te x d f' ys m' g' hg' h' v ((forall_mem_congr hm _).mp hdef)).2 f2 true h2
  merge_all_never_partial te x d f xs g hg h v ((forall_mem_congr hm _).mpr (hy.mp rfl))

/-- permuting the subschema list changes neither which instances the merged
    schema accepts … -/
theorem merge_perm_partial (te : Bool) (x : Ext) (d : Doc) (f f' : Nat) (xs ys : List Schema) (m m' : Schema) (g g' : List Gap)
    (hp : xs.Perm ys) (hg : GapFreeAll te d f xs = true) (hg' : GapFreeAll te d f' ys = true)
    (h : mergeAll te d f xs = .ok m g) (h' : mergeAll te d f' ys = .ok m' g') :
    ∀ v, Defined x d xs v → ∀ f1 f2 b1 b2, valid x d f1 m v = some b1 → valid x d f2 m' v = some b2 → b1 = b2 :=
  fun _ hdef _ _ _ _ => merge_members_partial (fun _ => hp.mem_iff) hg hg' h h' hdef

/-- … nor whether it is reported unsatisfiable: if one order yields `never`, the result of any other
    order accepts nothing -/
theorem merge_perm_never_partial (te : Bool) (x : Ext) (d : Doc) (f f' : Nat) (xs ys : List Schema) (m' : Schema) (g g' : List Gap)
    (hp : xs.Perm ys) (hg : GapFreeAll te d f xs = true) (hg' : GapFreeAll te d f' ys = true)
    (h : mergeAll te d f xs = .never g) (h' : mergeAll te d f' ys = .ok m' g') :
    ∀ v, Defined x d xs v → ∀ f2, valid x d f2 m' v ≠ some true :=
  fun _ hdef => merge_members_never_partial (fun _ => hp.mem_iff) hg hg' h h' hdef

/-! ## non-vacuity: the hypotheses are met by non-trivial inputs -/

def xAll : Ext := ⟨fun _ _ => true⟩
def dEx : Doc := ⟨[("A", .object [("x", .integer (some 0) (some 255))] ["x"] .open_),
                   ("B", .allOf [.ref "A", .object [("y", .string none none none)] [] .open_])]⟩

/-- a `$ref` to an object merged with an object that has `additionalProperties: schema`, disjoint and
    overlapping properties, union of `required` -/
example : tryMerge true dEx 6 (.ref "A")
    (.object [("x", .integer (some (-9223372036854775808)) (some 9223372036854775807)), ("z", .boolean)] ["z"]
      (.schema (.string none none none))) =
    .ok (.object [("x", .integer (some 0) (some 255)), ("z", .boolean)] ["x", "z"] (.schema (.string none none none))) [] := rfl

example : InMerge true dEx 6 (.ref "A") (.ref "B") = true ∧ GapFree true dEx 6 (.ref "A") (.ref "B") = true := ⟨rfl, rfl⟩

/-- a required property with conflicting types: unsatisfiable -/
example : tryMerge true dEx 6 (.ref "A") (.object [("x", .string none none none)] [] .open_) = .never [] := rfl

/-- distribution over a oneOf with disjoint (tagged) branches; one branch is dropped -/
example : tryMerge true dEx 6 (.object [("t", .enumVals [.str "a", .str "b"])] [] .open_)
    (.oneOf [.object [("t", .enumVals [.str "a"])] ["t"] .open_, .object [("t", .enumVals [.str "c"])] ["t"] .open_]) =
    .ok (.object [("t", .enumVals [.str "a"])] ["t"] .open_) [] := rfl

/-- lists: three schemas, gap-free, in two orders -/
example : mergeAll true dEx 6 [.ref "A", .object [("y", .boolean)] ["y"] .open_, .ref "B"] = .never [] := rfl
example : GapFreeAll true dEx 6 [.ref "A", .object [("y", .string none none none)] ["y"] .open_, .object [] [] .open_] = true ∧
          GapFreeAll true dEx 6 [.object [] [] .open_, .object [("y", .string none none none)] ["y"] .open_, .ref "A"] = true ∧
          InMergeAll true dEx 6 [.object [] [] .open_, .object [("y", .string none none none)] ["y"] .open_, .ref "A"] = true :=
  ⟨rfl, rfl, rfl⟩

/-- `not` with a single required name -/
example : tryMerge true dEx 6 (.object [("p", .boolean)] [] .open_) (.not (.object [] ["p"] .open_)) =
    .ok (.object [("p", .never)] [] .open_) [] := rfl

end TypifyModel.C09
