import TypifyModel.Model.Exclusive
import TypifyModel.Proofs.Lemmas.ConvLemmas
/-! What "mutually exclusive" in `util.rs` does and does not mean.

    `Excl.excl` is the model of `schemas_mutually_exclusive` (tied to the source by the M0 correspondence `tvh_excl` vs
    `drv_excl`). `convert_any_of` relies on it for "at most one branch of this anyOf can match": when it answers `true` the
    `anyOf` is generated like a `oneOf`, an enum whose variants serde tries in order.

    * `required_undeclared_sound_closed`: the first rule for two object schemas — one side requires a member the other
      does not declare — does establish that no document satisfies both, PROVIDED the other side is closed
      (`additionalProperties: false`), for every pair of object schemas, every document and every fuel.
    * Kernel-evaluated witnesses that the answer `true` does not imply exclusivity otherwise:
      `open_branch_not_exclusive` (the other side is open: the mechanism of finding C03-untagged-shadow),
      `fixed_values_not_exclusive` (the second rule compares the SETS of pinned members, not a member pinned on both
      sides), `typed_enum_not_exclusive` (every number of an `enum` counts as `number`, never as `integer`) and
      `integer_number_not_exclusive` (`integer` and `number` are different instance types). -/
namespace TypifyModel.Excl
open TypifyModel TypifyModel.Validate TypifyModel.Conv

/-- **sound when the other side is closed**: if `a` requires a member `r` that `b` does not declare and `b` admits no
    undeclared member, no document is valid under both -/
theorem required_undeclared_sound_closed (vx : Validate.Ext) (d : Doc) (m : Nat)
    (pa pb : List (String × Schema)) (ra rb : List String) (aa : Additional Schema) (r : String)
    (hr : r ∈ ra) (hnb : pb.all (fun q => q.1 != r) = true) (v : Json)
    (hva : valid vx d (m + 1) (.object pa ra aa) v = some true)
    (hvb : valid vx d (m + 1) (.object pb rb .closed) v = some true) : False := by
  cases v with
  | obj kvs =>
    simp only [valid] at hva hvb
    obtain ⟨hreq, _⟩ := and3_true hva
    obtain ⟨_, hmemb⟩ := and3_true hvb
    simp only [Option.some.injEq] at hreq
    have hpres := (List.all_eq_true.mp hreq) r hr
    cases hl : Json.lookup kvs r with
    | none => rw [hl] at hpres; simp at hpres
    | some w =>
      have hmem : (r, w) ∈ kvs := Json.lookup_mem hl
      rcases membersV_spec hmemb (r, w) hmem with ⟨q, hq, _⟩ | ⟨_, hno⟩
      · have hqm := List.mem_of_find?_eq_some hq
        have hqk : q.1 = r := by simpa using List.find?_some hq
        have := (List.all_eq_true.mp hnb) q hqm
        simp [hqk] at this
      · exact hno rfl
  | _ => simp [valid] at hva

def vx0 : Validate.Ext := ⟨fun _ _ => true⟩
def d0 : Doc := ⟨[]⟩

/-- `anyOf[{a?: integer}, {b: string}]`: the source calls the branches exclusive (`b` is required by the second and not
    declared by the first) although `{"b": "s"}` satisfies both — the first branch is open -/
theorem open_branch_not_exclusive :
    excl 8 (.obj [("type", .str "object"), ("properties", .obj [("a", .obj [("type", .str "integer")])])])
           (.obj [("type", .str "object"), ("properties", .obj [("b", .obj [("type", .str "string")])]), ("required", .arr [.str "b"])])
      = some true ∧
    valid vx0 d0 4 (.object [("a", .integer none none)] [] .open_) (.obj [("b", .str "s")]) = some true ∧
    valid vx0 d0 4 (.object [("b", .string none none none)] ["b"] .open_) (.obj [("b", .str "s")]) = some true := by
  decide +kernel

/-- `{t: "x" (required), u?: string}` and `{t?: string, u: "y" (required)}`: "neither set of pinned members contains the
    other" — yet `{"t": "x", "u": "y"}` satisfies both -/
theorem fixed_values_not_exclusive :
    excl 8 (.obj [("type", .str "object"), ("required", .arr [.str "t"]),
                  ("properties", .obj [("t", .obj [("const", .str "x")]), ("u", .obj [("type", .str "string")])])])
           (.obj [("type", .str "object"), ("required", .arr [.str "u"]),
                  ("properties", .obj [("t", .obj [("type", .str "string")]), ("u", .obj [("const", .str "y")])])])
      = some true ∧
    valid vx0 d0 4 (.object [("t", .enumVals [.str "x"]), ("u", .string none none none)] ["t"] .open_)
      (.obj [("t", .str "x"), ("u", .str "y")]) = some true ∧
    valid vx0 d0 4 (.object [("t", .string none none none), ("u", .enumVals [.str "y"])] ["u"] .open_)
      (.obj [("t", .str "x"), ("u", .str "y")]) = some true := by
  decide +kernel

/-- `{type: integer}` against `{enum: [1, 2]}`: every enumerated number counts as `number`, so "no value has the marked
    type" — yet `1` satisfies both -/
theorem typed_enum_not_exclusive :
    excl 8 (.obj [("type", .str "integer")]) (.obj [("enum", .arr [.int 1, .int 2])]) = some true ∧
    valid vx0 d0 4 (.integer none none) (.int 1) = some true ∧
    valid vx0 d0 4 (.enumVals [.int 1, .int 2]) (.int 1) = some true := by
  decide +kernel

/-- `{type: integer}` against `{type: number}`: different instance types — yet `1` satisfies both -/
theorem integer_number_not_exclusive :
    excl 8 (.obj [("type", .str "integer")]) (.obj [("type", .str "number")]) = some true ∧
    valid vx0 d0 4 (.integer none none) (.int 1) = some true ∧
    valid vx0 d0 4 .number (.int 1) = some true := by
  decide +kernel

/-- the side conditions `hr`, `hnb` of `required_undeclared_sound_closed` hold of a concrete pair on which the source's rule fires -/
example :
    excl 8 (.obj [("type", .str "object"), ("properties", .obj [("b", .obj [("type", .str "string")])]), ("required", .arr [.str "b"])])
           (.obj [("type", .str "object"), ("properties", .obj [("a", .obj [("type", .str "integer")])]), ("additionalProperties", .bool false)])
      = some true ∧ "b" ∈ ["b"] ∧ ([("a", Schema.integer none none)].all (fun q => q.1 != "b")) = true := by
  decide +kernel

end TypifyModel.Excl
