import TypifyModel.Proofs.Lemmas.RoundTripStruct2
import TypifyModel.Proofs.Lemmas.WireBase
import TypifyModel.Proofs.Lemmas.SortedKv
/-! The round trip of a struct with one flattened map (`additionalProperties: <schema>`), C03. -/
namespace TypifyModel.RoundTrip
open TypifyModel TypifyModel.Serde

variable (x : Ext) (σ : Space)

/-- named members first, one flattened member last: `foldFields` is `mapM'` over the named ones, then the flattened step -/
theorem foldFields_snoc {N : Field → Except E (String × Val)}
    {F : Field → List (String × Json) → Except E Val × List (String × Json)} :
    ∀ (named : List Field) (e : Field) (c : List (String × Json)), hasFlatten named = false → e.rename = .flatten →
      foldFields N F (named ++ [e]) c =
        (match mapM' N named with
         | .error err => (.error err, c)
         | .ok fsN =>
           match F e c with
           | (.error err, c') => (.error err, c')
           | (.ok v, c') => (.ok (fsN ++ [(e.name, v)]), c')) := by
  intro named
  induction named with
  | nil =>
    intro e c _ he
    simp only [List.nil_append, foldFields, he, beq_self_eq_true, if_true, mapM']
    rcases F e c with ⟨_ | _, _⟩ <;> rfl
  | cons p ps ih =>
    intro e c hfl he
    obtain ⟨hpf, hrf⟩ := hasFlatten_cons hfl
    simp only [List.cons_append, foldFields, hpf, Bool.false_eq_true, if_false, mapM', ih e c hrf he]
    cases N p with
    | error err => rfl
    | ok a =>
      cases mapM' N ps with
      | error err => rfl
      | ok fsN => rcases F e c with ⟨_ | _, _⟩ <;> rfl

/-- the same for serialisation: the entries of the named members, then the entries of the flattened one -/
theorem seFieldsR_snoc {rec : Id → Val → Except E Json} :
    ∀ (named : List Field) (fsN : List (String × Val)) (e : Field) (n : String) (m : Val),
      hasFlatten named = false → e.rename = .flatten → named.length = fsN.length →
      seFieldsR rec σ (named ++ [e]) (fsN ++ [(n, m)]) =
        (match (if skipped σ e m then (.ok [] : Except E (List (String × Json))) else
                 match rec e.ty m with
                 | .ok (.obj em) => .ok em
                 | .ok .null => .ok []
                 | .ok _ => .error .reject
                 | .error err => .error err) with
         | .error err => .error err
         | .ok em =>
           match seFieldsR rec σ named fsN with
           | .error err => .error err
           | .ok esN => .ok (esN ++ em)) := by
  intro named
  induction named with
  | nil =>
    intro fsN e n m _ he hlen
    cases fsN with
    | cons _ _ => cases hlen
    | nil =>
      simp only [List.nil_append, seFieldsR, he, beq_self_eq_true, if_true]
      cases skipped σ e m with
      | true => rfl
      | false =>
        rcases rec e.ty m with _ | j
        · rfl
        · cases j <;> simp only [Bool.false_eq_true, if_false, List.append_nil]
  | cons p ps ih =>
    intro fsN e n m hfl he hlen
    obtain ⟨hpf, hrf⟩ := hasFlatten_cons hfl
    cases fsN with
    | nil => cases hlen
    | cons a as =>
      simp only [List.cons_append, seFieldsR, hpf, Bool.false_eq_true, if_false,
        ih as e n m hrf he (Nat.succ.inj hlen)]
      generalize (if skipped σ e m then (.ok [] : Except E (List (String × Json))) else
                 match rec e.ty m with
                 | .ok (.obj em) => .ok em
                 | .ok .null => .ok []
                 | .ok _ => .error .reject
                 | .error err => .error err) = X
      cases X with
      | error err => rfl
      | ok em =>
        cases seFieldsR rec σ ps as with
        | error err => rfl
        | ok esN =>
          cases skipped σ p a.2 with
          | true => rfl
          | false => cases rec p.ty a.2 <;> rfl

theorem de_map_keys {t k vt : Id} {ed : List String} {im : List Impl} (hget : σ.get t = some ⟨.map k vt, ed, im⟩)
    {f : Nat} {c : List (String × Json)} {m : Val} (h : de x σ (f + 1) t (.obj c) = .ok m) :
    ∃ mm, m = .map mm ∧ (∀ e ∈ mm, ∃ kv ∈ c, kv.1 = e.1) ∧ (c = [] → mm = []) := by
  simp only [de, hget] at h
  split at h
  next es hes =>
    cases h
    refine ⟨_, rfl, fun e he => ?_, fun hc => ?_⟩
    · obtain ⟨kv, hkv, hg⟩ := WireEq.mapM'_ok_mem hes e
        ((foldl_insertKv_mem es [] e he).resolve_right List.not_mem_nil)
      exact ⟨kv, hkv, by split at hg <;> cases hg <;> rfl⟩
    · subst hc; cases hes; rfl
  next => cases h

theorem se_map_keys {t k vt : Id} {ed : List String} {im : List Impl} (hget : σ.get t = some ⟨.map k vt, ed, im⟩)
    {f : Nat} {mm : List (String × Val)} {w : Json} (h : se σ (f + 1) t (.map mm) = .ok w) :
    ∃ em, w = .obj em ∧ (∀ kj ∈ em, ∃ e ∈ mm, e.1 = kj.1) ∧ (mm = [] → em = []) := by
  simp only [se, hget] at h
  split at h
  next es hes =>
    cases h
    refine ⟨_, rfl, fun kj hkj => ?_, fun hc => ?_⟩
    · obtain ⟨e, he, hg⟩ := WireEq.mapM'_ok_mem hes kj hkj
      exact ⟨e, he, by split at hg <;> cases hg; rfl⟩
    · subst hc; cases hes; rfl
  next => cases h

theorem lookup_append (a b : List (String × Json)) (k : String) :
    Json.lookup (a ++ b) k = (match Json.lookup a k with | some v => some v | none => Json.lookup b k) := by
  induction a with
  | nil => rfl
  | cons h r ih =>
    simp only [List.cons_append, Json.lookup]
    by_cases hk : h.1 = k <;> simp only [hk, if_true, if_false, ih]

theorem bufferOf_append {ps : List Field} {esN em : List (String × Json)}
    (h1 : ∀ kv ∈ esN, ∃ p ∈ ps, p.rename ≠ .flatten ∧ p.wire = kv.1)
    (h2 : ∀ kv ∈ em, ∀ p ∈ ps, p.rename ≠ .flatten → p.wire ≠ kv.1) : bufferOf ps (esN ++ em) = em := by
  unfold bufferOf
  rw [List.filter_append, List.filter_eq_nil_iff.mpr, List.filter_eq_self.mpr, List.nil_append]
  · intro kv hkv
    simpa using h2 kv hkv
  · intro kv hkv
    simpa using h1 kv hkv

/-- A successful read (`h1`) and write (`h2`) of a struct "named members, then one flattened map", taken apart.
    Conjuncts in order: 1 the shape of `ps`; 2 the document is an object; 3 `e` is flattened; 4 `named` is `fieldsOkB`;
    5 `e.ty` is a map type; 6 the named members read `fsN`; 7 `e` reads `mm` from the buffer; 8 `fs` is both;
    9 the named members write `esN`; 10 the map writes `em`; 11 `es` is both; 12 no key of `em` is a named member's
    wire name; 13 with `deny`, the buffer and `em` are empty; 14 there was fuel. -/
theorem flat_decompose {f : Nat} {ps : List Field} (hok : fieldsOkFlatB σ ps = true) {deny : Bool} {v : Json}
    {fs : List (String × Val)} {es : List (String × Json)}
    (h1 : deStruct x σ (f + 1) ps deny v = .ok (.struct fs))
    (h2 : seStruct σ (f + 1) ps fs = .ok es) :
    ∃ (named : List Field) (e : Field) (k vt : Id) (ed : List String) (im : List Impl) (kvs : List (String × Json))
      (fsN : List (String × Val)) (mm : List (String × Val)) (esN em : List (String × Json)),
      ps = named ++ [e] ∧ v = .obj kvs ∧ e.rename = .flatten ∧ fieldsOkB σ named = true ∧
      σ.get e.ty = some ⟨.map k vt, ed, im⟩ ∧
      mapM' (stepE x σ f kvs) named = .ok fsN ∧
      de x σ f e.ty (.obj (bufferOf ps kvs)) = .ok (.map mm) ∧
      fs = fsN ++ [(e.name, .map mm)] ∧
      seFieldsR (se σ f) σ named fsN = .ok esN ∧
      se σ f e.ty (.map mm) = .ok (.obj em) ∧
      es = esN ++ em ∧
      (∀ kv ∈ em, ∀ p ∈ ps, p.rename ≠ .flatten → p.wire ≠ kv.1) ∧
      (deny = true → bufferOf ps kvs = [] ∧ em = []) ∧
      0 < f := by
  unfold fieldsOkFlatB at hok
  split at hok
  next e hlast =>
    simp only [Bool.and_eq_true, beq_iff_eq] at hok
    obtain ⟨⟨⟨hef, hest⟩, hmap⟩, hokN⟩ := hok
    have hps := dropLast_snoc_of_getLast? hlast
    generalize ps.dropLast = named at hps hokN
    subst hps
    have hfl := (fieldsOk_unpack σ hokN).1
    have hflat : hasFlatten (named ++ [e]) = true := by simp [hasFlatten, hef]
    split at hmap
    next k vt ed im hge =>
      cases v with
      | obj kvs =>
        cases f with
        | zero =>
          simp only [deStruct_flat x σ hflat, foldFields_snoc named e _ hfl hef, deFlat] at h1
          split at h1
          · cases h1
          · rename_i heq
            split at heq <;> cases heq
        | succ f' =>
          simp only [deStruct_flat x σ hflat, foldFields_snoc named e _ hfl hef, deFlat_map_eq x σ hge] at h1
          split at h1
          next => cases h1
          next fs' rest heq =>
            split at h1
            next => cases h1
            next hdenyB =>
              cases h1
              split at heq
              next => cases heq
              next fsN hmN =>
                cases hdeB : de x σ (f' + 1) e.ty (.obj (bufferOf (named ++ [e]) kvs)) with
                | error err => simp only [hdeB] at heq; cases heq
                | ok m =>
                  simp only [hdeB] at heq
                  cases heq
                  obtain ⟨mm, rfl, hmmk, hmm0⟩ := de_map_keys x σ hge hdeB
                  have hsk : skipped σ e (.map mm) = false := by
                    cases hs : e.state <;> simp [hs] at hest <;> simp [skipped, hs]
                  simp only [seStruct, seFieldsR_snoc σ named fsN e e.name (.map mm) hfl hef (mapM'_length hmN).symm, hsk,
                    Bool.false_eq_true, if_false] at h2
                  cases hse : se σ (f' + 1) e.ty (.map mm) with
                  | error err => simp only [hse] at h2; cases h2
                  | ok w =>
                    obtain ⟨em, rfl, hemk, hem0⟩ := se_map_keys σ hge hse
                    simp only [hse] at h2
                    split at h2
                    next => cases h2
                    next esN hsN =>
                      cases h2
                      -- the keys written come from the buffer, whose keys no named member claims
                      have hemfree : ∀ kv ∈ em, ∀ p ∈ named ++ [e], p.rename ≠ .flatten → p.wire ≠ kv.1 := by
                        intro kv hkv p hp hpf hw
                        obtain ⟨e1, he1, hk1⟩ := hemk kv hkv
                        obtain ⟨kv0, hkv0, hk0⟩ := hmmk e1 he1
                        simp only [bufferOf, List.mem_filter, Bool.not_eq_true', List.any_eq_false, Bool.and_eq_true,
                          bne_iff_ne, ne_eq, beq_iff_eq, not_and] at hkv0
                        exact hkv0.2 p hp hpf (by rw [hw, ← hk1, ← hk0])
                      refine ⟨named, e, k, vt, ed, im, kvs, fsN, mm, esN, em, rfl, rfl, hef, hokN, hge, hmN, hdeB, rfl, hsN, hse,
                        rfl, hemfree, fun hdn => ?_, Nat.succ_pos _⟩
                      subst hdn
                      have hb : bufferOf (named ++ [e]) kvs = [] := by simpa using hdenyB
                      exact ⟨hb, hem0 (hmm0 hb)⟩
      | _ => simp [deStruct, hflat] at h1
    next => cases hmap
  next => cases hok

/-- **structs with typed additional properties**: reading back what was written gives the same members, the flattened map
    included -/
theorem struct_rt_flat {f : Nat} {ps : List Field} (hih : ∀ p ∈ ps, RTat x σ f p.ty)
    (hok : fieldsOkFlatB σ ps = true) {deny : Bool} {v : Json} {fs : List (String × Val)}
    {es : List (String × Json)}
    (h1 : deStruct x σ (f + 1) ps deny v = .ok (.struct fs))
    (h2 : seStruct σ (f + 1) ps fs = .ok es) :
    deStruct x σ (f + 1) ps deny (.obj es) = .ok (.struct fs) := by
  obtain ⟨named, e, k, vt, ed, im, kvs, fsN, mm, esN, em, rfl, rfl, hef, hokN, hge, hmN, hdeB, rfl, hsN, hse, rfl, hemfree,
    hdeny, hfpos⟩ := flat_decompose x σ hok h1 h2
  obtain ⟨hfl, hnd, hreq, hopt⟩ := fieldsOk_unpack σ hokN
  obtain ⟨f', rfl⟩ : ∃ f', f = f' + 1 := ⟨f - 1, by omega⟩
  have nf : ∀ p ∈ named, p.rename ≠ .flatten := by
    intro p hp hc
    have := List.any_eq_false.mp hfl p hp
    simp [hc] at this
  have hflat : hasFlatten (named ++ [e]) = true := by simp [hasFlatten, hef]
  have hkeysN := seFieldsR_keys σ hfl hsN
  have hbuf : bufferOf (named ++ [e]) (esN ++ em) = em := by
    apply bufferOf_append
    · intro kv hkv
      obtain ⟨p, hp, hw⟩ := hkeysN kv hkv
      exact ⟨p, by simp [hp], nf p hp, hw⟩
    · exact hemfree
  have hlook : ∀ p ∈ named, Json.lookup (esN ++ em) p.wire = Json.lookup esN p.wire := by
    intro p hp
    rw [lookup_append]
    split
    next v hl => exact hl.symm
    next hl =>
      rw [hl]
      exact lookup_none_of_not_key fun kv hkv hc =>
        hemfree kv hkv p (List.mem_append_left _ hp) (nf p hp) hc.symm
  have hback := fields_back x σ named (fun p hp => hih p (List.mem_append_left _ hp)) fsN esN
    (stepE_fieldsRel x σ hreq hmN) hsN hnd hopt hfl (esN ++ em) hlook
  have hrt := hih e (List.mem_append_right _ List.mem_cons_self) _ _ _ hdeB hse
  have hdenyE : (deny && !em.isEmpty) = false := by
    cases hd : deny with
    | false => rfl
    | true => rw [(hdeny hd).2]; rfl
  simp only [deStruct_flat x σ hflat, foldFields_snoc named e _ hfl hef, hbuf, hback, deFlat_map_eq x σ hge, hrt, hdenyE,
    Bool.false_eq_true, if_false]

end TypifyModel.RoundTrip
