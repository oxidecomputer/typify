import TypifyModel.Model.Contain
import TypifyModel.Proofs.Lemmas.RoundTripStruct2
import TypifyModel.Proofs.Lemmas.JsonBasics
/-! Basic facts about `prune`, `contained`, `lookup` on duplicate-free objects (C03: containment). -/
namespace TypifyModel.Contain
open TypifyModel TypifyModel.Serde TypifyModel.RoundTrip

theorem lookup_mem {l : List (String × Json)} {k : String} {y : Json}
    (h : Json.lookup l k = some y) : (k, y) ∈ l :=
  Json.lookup_mem h

theorem nodupKeys_cons {k : String} {v : Json} {r : List (String × Json)}
    (h : nodupKeys ((k, v) :: r) = true) : (∀ kv ∈ r, kv.1 ≠ k) ∧ nodupKeys r = true :=
  have ⟨h1, h2⟩ := nodupB_cons (show nodupB (k :: r.map (·.1)) = true from h)
  ⟨fun kv hkv => h1 kv.1 (List.mem_map_of_mem hkv), h2⟩

theorem lookup_of_mem {l : List (String × Json)} {k : String} {y : Json}
    (hnd : nodupKeys l = true) (h : (k, y) ∈ l) : Json.lookup l k = some y := by
  induction l with
  | nil => simp at h
  | cons a r ih =>
    obtain ⟨k', v⟩ := a
    obtain ⟨hne, hr⟩ := nodupKeys_cons hnd
    simp only [List.mem_cons, Prod.mk.injEq] at h
    simp only [Json.lookup]
    rcases h with ⟨rfl, rfl⟩ | h
    · simp
    · have : k' ≠ k := fun heq => hne (k, y) h heq.symm
      simp only [this, if_false]
      exact ih hr h

theorem containedObj_iff {a b : List (String × Json)} :
    containedObj a b = true ↔ ∀ kv ∈ a, ∃ y, Json.lookup b kv.1 = some y ∧ contained kv.2 y = true := by
  induction a with
  | nil => simp [containedObj]
  | cons x r ih =>
    obtain ⟨k, v⟩ := x
    simp only [containedObj, Bool.and_eq_true, List.mem_cons, forall_eq_or_imp, ih]
    cases Json.lookup b k with
    | none => simp only [Bool.false_eq_true, false_and, reduceCtorEq, exists_const]
    | some y => simp only [Option.some.injEq, exists_eq_left']

theorem mem_pruneObj {kvs : List (String × Json)} {k : String} {v' : Json} :
    (k, v') ∈ pruneObj kvs ↔ ∃ v, (k, v) ∈ kvs ∧ v' = prune v ∧ emptyJ v' = false := by
  induction kvs with
  | nil => simp [pruneObj]
  | cons a r ih =>
    obtain ⟨k0, v0⟩ := a
    simp only [pruneObj]
    split
    · rename_i he
      rw [ih]
      constructor
      · rintro ⟨v, hm, h1, h2⟩; exact ⟨v, List.mem_cons_of_mem _ hm, h1, h2⟩
      · rintro ⟨v, hm, h1, h2⟩
        simp only [List.mem_cons, Prod.mk.injEq] at hm
        rcases hm with ⟨rfl, rfl⟩ | hm
        · subst h1; rw [he] at h2; simp at h2
        · exact ⟨v, hm, h1, h2⟩
    · rename_i he
      simp only [List.mem_cons, Prod.mk.injEq, ih]
      constructor
      · rintro (⟨rfl, rfl⟩ | ⟨v, hm, h1, h2⟩)
        · exact ⟨v0, Or.inl ⟨rfl, rfl⟩, rfl, by simpa using he⟩
        · exact ⟨v, Or.inr hm, h1, h2⟩
      · rintro ⟨v, hm | hm, h1, h2⟩
        · obtain ⟨rfl, rfl⟩ := hm; exact Or.inl ⟨rfl, h1⟩
        · exact Or.inr ⟨v, hm, h1, h2⟩

theorem pruneObj_keys {kvs : List (String × Json)} : ∀ kv ∈ pruneObj kvs, ∃ kv' ∈ kvs, kv'.1 = kv.1 := by
  intro kv h
  obtain ⟨k, v'⟩ := kv
  obtain ⟨v, hm, _, _⟩ := mem_pruneObj.mp h
  exact ⟨(k, v), hm, rfl⟩

theorem nodupB_of_forall {a : String} {r : List String} (h1 : ∀ b ∈ r, b ≠ a) (h2 : nodupB r = true) :
    nodupB (a :: r) = true := by
  simpa [nodupB, h2] using fun h => h1 a h rfl

theorem nodupKeys_pruneObj {kvs : List (String × Json)} (h : nodupKeys kvs = true) :
    nodupKeys (pruneObj kvs) = true := by
  induction kvs with
  | nil => simp [pruneObj, nodupKeys, nodupB]
  | cons a r ih =>
    obtain ⟨k0, v0⟩ := a
    obtain ⟨hne, hr⟩ := nodupKeys_cons h
    simp only [pruneObj]
    split
    · exact ih hr
    · unfold nodupKeys
      simp only [List.map_cons]
      apply nodupB_of_forall
      · intro b hb
        obtain ⟨kv, hkv, rfl⟩ := List.mem_map.mp hb
        obtain ⟨kv', hkv', he⟩ := pruneObj_keys kv hkv
        rw [← he]; exact hne kv' hkv'
      · exact ih hr

theorem contained_nonempty {a b : Json} (h : contained a b = true) (ha : emptyJ a = false) :
    emptyJ b = false := by
  cases b with
  | null => cases a <;> first | exact ha | cases h
  | arr ys =>
    cases ys with
    | cons _ _ => rfl
    | nil =>
      cases a with
      | arr xs => cases xs <;> first | exact ha | cases h
      | _ => cases h
  | obj kvs =>
    cases kvs with
    | cons _ _ => rfl
    | nil =>
      cases a with
      | obj xs => cases xs <;> first | exact ha | simp [contained, containedObj, Json.lookup] at h
      | _ => cases h
  | _ => rfl

theorem containedObj_pruneObj {kvs b : List (String × Json)} :
    containedObj (pruneObj kvs) b = true ↔ ∀ k v, (k, v) ∈ kvs → emptyJ (prune v) = false →
      ∃ y, Json.lookup b k = some y ∧ contained (prune v) y = true := by
  rw [containedObj_iff]
  constructor
  · intro h k v hm hne
    exact h (k, prune v) (mem_pruneObj.mpr ⟨v, hm, rfl, hne⟩)
  · rintro h ⟨k, v'⟩ hkv
    obtain ⟨v, hm, rfl, hne⟩ := mem_pruneObj.mp hkv
    exact h k v hm hne

theorem lookup_pruneObj {es : List (String × Json)} {k : String} {w : Json} (hnd : nodupKeys es = true)
    (hm : (k, w) ∈ es) (hne : emptyJ (prune w) = false) : Json.lookup (pruneObj es) k = some (prune w) :=
  lookup_of_mem (nodupKeys_pruneObj hnd) (mem_pruneObj.mpr ⟨w, hm, rfl, hne⟩)

theorem containedObj_prune {kvs es : List (String × Json)} (hnd : nodupKeys es = true)
    (h : ∀ k v, (k, v) ∈ kvs → emptyJ (prune v) = false →
      ∃ w, (k, w) ∈ es ∧ contained (prune v) (prune w) = true) :
    containedObj (pruneObj kvs) (pruneObj es) = true :=
  containedObj_pruneObj.mpr fun k v hm hne =>
    let ⟨w, hw, hc⟩ := h k v hm hne
    ⟨prune w, lookup_pruneObj hnd hw (contained_nonempty hc hne), hc⟩

end TypifyModel.Contain
