import TypifyModel.Proofs.Lemmas.RoundTripFlat
import TypifyModel.Proofs.Lemmas.ContainStruct
/-! The containment clause (C03) for a struct with one flattened map (`additionalProperties: <schema>`): a member read by
    name is contained in the member written for it; every other member was read by the map and is contained in the entry
    the map writes for it. -/
namespace TypifyModel.Contain
open TypifyModel TypifyModel.Serde TypifyModel.RoundTrip

variable (x : Ext) (σ : Space)

theorem pruneObj_append (a b : List (String × Json)) : pruneObj (a ++ b) = pruneObj a ++ pruneObj b := by
  induction a with
  | nil => simp [pruneObj]
  | cons h r ih =>
    obtain ⟨k, v⟩ := h
    simp only [List.cons_append, pruneObj]
    split <;> simp [ih]

theorem find_named : ∀ {named : List Field}, (∀ p ∈ named, p.rename ≠ .flatten) → nodupB (named.map (·.wire)) = true →
    ∀ p ∈ named, named.find? (fun q => q.rename != .flatten && q.wire == p.wire) = some p := by
  intro named
  induction named with
  | nil => intro _ _ p hp; cases hp
  | cons a r ih =>
    intro nf hnd p hp
    obtain ⟨hne, hnd'⟩ := nodupB_cons (show nodupB (a.wire :: r.map (·.wire)) = true from hnd)
    have ha : (a.rename != Rename.flatten) = true := by simpa using nf a List.mem_cons_self
    rcases List.mem_cons.mp hp with rfl | hp
    · simp [List.find?, ha]
    · have hw : (a.wire == p.wire) = false := by
        simpa using fun hc : a.wire = p.wire => hne p.wire (List.mem_map_of_mem hp) hc.symm
      simp only [List.find?, ha, hw, Bool.and_false]
      exact ih (fun q hq => nf q (List.mem_cons_of_mem _ hq)) hnd' p hp

theorem struct_contained_flat {f : Nat} {ps : List Field} {deny : Bool} {kvs : List (String × Json)}
    {fs : List (String × Val)} {es : List (String × Json)}
    (hih : ∀ p ∈ ps, ∀ vk a w, declared σ f p.ty vk = true → de x σ f p.ty vk = .ok a →
      se σ f p.ty a = .ok w → contained (prune vk) (prune w) = true)
    (hok : fieldsOkFlatB σ ps = true)
    (hd : declaredStruct σ (f + 1) ps (.obj kvs) = true)
    (h1 : deStruct x σ (f + 1) ps deny (.obj kvs) = .ok (.struct fs))
    (h2 : seStruct σ (f + 1) ps fs = .ok es) :
    containedObj (pruneObj kvs) (pruneObj es) = true := by
  obtain ⟨named, e, k, vt, ed, im, kvs', fsN, mm, esN, em, rfl, hv, hef, hokN, hge, hmN, hdeB, rfl, hsN, hse, rfl, hemfree,
    hdeny, hfpos⟩ := flat_decompose x σ hok h1 h2
  cases hv
  obtain ⟨hfl, hnd, _, _⟩ := fieldsOk_unpack σ hokN
  have nf : ∀ p ∈ named, p.rename ≠ .flatten := by
    intro p hp hc
    have := List.any_eq_false.mp hfl p hp
    simp [hc] at this
  have hflat : hasFlatten (named ++ [e]) = true := by simp [hasFlatten, hef]
  simp only [declaredStruct, hflat, if_true, Bool.and_eq_true] at hd
  obtain ⟨⟨hndk, hall⟩, hflatd⟩ := hd
  have hndN : nodupKeys esN = true := seFieldsR_nodup σ hfl hsN hnd
  -- the flattened map declares, reads and writes the buffer
  have hcB := hih e (by simp) _ _ _ (by simpa [hef] using List.all_eq_true.mp hflatd e (by simp)) hdeB hse
  simp only [prune, contained] at hcB
  rw [pruneObj_append]
  refine containedObj_pruneObj.mpr fun key vk hmem hne => ?_
  rw [lookup_append]
  by_cases hnamed : ∃ p ∈ named, p.wire = key
  · -- read by name
    obtain ⟨p, hp, rfl⟩ := hnamed
    have hdecl : declared σ f p.ty vk = true := by
      have := (List.all_eq_true.mp hall) (p.wire, vk) hmem
      rwa [List.find?_append, find_named nf hnd p hp] at this
    obtain ⟨w, hwm, hcw⟩ := fields_contained x σ named fsN esN hfl hmN hsN p hp vk (lookup_of_mem hndk hmem) hne
      (fun a w => hih p (by simp [hp]) vk a w hdecl)
    rw [lookup_pruneObj hndN hwm (contained_nonempty hcw hne)]
    exact ⟨_, rfl, hcw⟩
  · -- read by the flattened map: no written named member has this key
    have hbuf : (key, vk) ∈ bufferOf (named ++ [e]) kvs := by
      simp only [bufferOf, List.mem_filter, Bool.not_eq_true', List.any_eq_false, Bool.and_eq_true,
        bne_iff_ne, ne_eq, beq_iff_eq, not_and]
      refine ⟨hmem, fun p hp hpf hpw => ?_⟩
      rcases List.mem_append.mp hp with hp | hp
      · exact hnamed ⟨p, hp, hpw⟩
      · exact hpf (List.mem_singleton.mp hp ▸ hef)
    have hnone : Json.lookup (pruneObj esN) key = none := by
      refine lookup_none_of_not_key fun kv hkv hc => ?_
      obtain ⟨kv0, hkv0, hk0⟩ := pruneObj_keys kv hkv
      obtain ⟨p, hp, hpw⟩ := seFieldsR_keys σ hfl hsN kv0 hkv0
      exact hnamed ⟨p, hp, by rw [hpw, hk0]; exact hc⟩
    rw [hnone]
    exact containedObj_pruneObj.mp hcB key vk hbuf hne

end TypifyModel.Contain
