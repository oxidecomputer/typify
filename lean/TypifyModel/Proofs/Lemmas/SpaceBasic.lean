import TypifyModel.Model.SpaceSM
/-! C16 helpers: the outcomes of `assign_type`; induction over a successful conversion
    (`convertLite_induct`, of which every later fact about `convertLite` is one application); the
    conversion only ever extends the state (`Ext`, the `Ext` half of DESIGN.md Appendix C's
    `convert_spec`); the finalize loop. -/
set_option autoImplicit false
namespace TypifyModel.Space
open TypifyModel.Names (Str)

theorem alookup_cons_self {α β : Type} [DecidableEq α] (k : α) (v : β) (l : List (α × β)) :
    alookup ((k, v) :: l) k = some v := by simp [alookup]

theorem alookup_cons_ne {α β : Type} [DecidableEq α] {k x : α} (v : β) (l : List (α × β)) (h : k ≠ x) :
    alookup ((k, v) :: l) x = alookup l x := by simp [alookup, h]

theorem alookup_cons {α β : Type} [DecidableEq α] (k x : α) (v : β) (l : List (α × β)) :
    alookup ((k, v) :: l) x = if k = x then some v else alookup l x := rfl

theorem entry_setEntry (σ : State) (i j : Nat) (e : Details) :
    (σ.setEntry i e).entry j = if i = j then some e else σ.entry j := rfl

theorem mem_insertField {x a : Field} : ∀ {l : List Field}, a ∈ insertField x l ↔ a = x ∨ a ∈ l := by
  intro l
  induction l with
  | nil => simp [insertField]
  | cons y ys ih =>
    simp only [insertField]
    split
    · simp
    · simp only [List.mem_cons, ih]; exact or_left_comm

theorem mem_sortFields {a : Field} : ∀ {l : List Field}, a ∈ sortFields l ↔ a ∈ l := by
  intro l
  induction l with
  | nil => simp [sortFields]
  | cons x xs ih => simp only [sortFields, mem_insertField, ih, List.mem_cons]

def alloc (σ : State) (e : Details) : State :=
  { σ with nextId := σ.nextId + 1, idToEntry := (σ.nextId, e) :: σ.idToEntry,
           nameToId := match e.name? with
                       | some n => (n, σ.nextId) :: σ.nameToId
                       | none => σ.nameToId,
           typeToId := match e.name? with
                       | some _ => σ.typeToId
                       | none => (e, σ.nextId) :: σ.typeToId }

theorem alloc_entry (σ : State) (e : Details) (i : Nat) :
    (alloc σ e).entry i = if σ.nextId = i then some e else σ.entry i := rfl

theorem alloc_name (σ : State) (e : Details) (m : Str) :
    alookup (alloc σ e).nameToId m
      = if e.name? = some m then some σ.nextId else alookup σ.nameToId m := by
  unfold alloc
  cases e.name? with
  | none => simp
  | some n => simp [alookup_cons]

theorem alloc_type (σ : State) (e d : Details) :
    alookup (alloc σ e).typeToId d
      = if e.name? = none ∧ e = d then some σ.nextId else alookup σ.typeToId d := by
  unfold alloc
  cases e.name? with
  | none => simp [alookup_cons]
  | some n => simp

/-- the outcomes of `assign_type` -/
inductive AssignCase (e : Details) (σ : State) : Nat × State → Prop
  | ref (t : Nat) : e.refTarget? = some t → AssignCase e σ (t, σ)
  | nameHit (n : Str) (i : Nat) : e.refTarget? = none → e.name? = some n →
      alookup σ.nameToId n = some i → AssignCase e σ (i, σ)
  | typeHit (i : Nat) : e.refTarget? = none → e.name? = none →
      alookup σ.typeToId e = some i → AssignCase e σ (i, σ)
  | new : e.refTarget? = none → (∀ n, e.name? = some n → alookup σ.nameToId n = none) →
      (e.name? = none → alookup σ.typeToId e = none) → AssignCase e σ (σ.nextId, alloc σ e)

theorem assignType_cases (e : Details) (σ : State) : AssignCase e σ (assignType e σ) := by
  unfold assignType
  split
  · rename_i t ht; exact .ref t ht
  · rename_i hr
    split
    · rename_i n hn
      split
      · rename_i i hi; exact .nameHit n i hr hn hi
      · rename_i hi
        have hnew := AssignCase.new (σ := σ) hr (fun m hm => by rw [hn] at hm; cases hm; exact hi)
          (fun h => by rw [hn] at h; cases h)
        unfold alloc at hnew; rw [hn] at hnew; exact hnew
    · rename_i hn
      split
      · rename_i i hi; exact .typeHit i hr hn hi
      · rename_i hi
        have hnew := AssignCase.new (σ := σ) hr (fun m hm => by rw [hn] at hm; cases hm) (fun _ => hi)
        unfold alloc at hnew; rw [hn] at hnew; exact hnew

/-- `struct_property` cannot fail once the schema is converted: the field takes the id it is handed,
    or that id wrapped by `id_to_option` -/
theorem propResult_cases {req : List Str} {pn : Str} {p : Nat × State} {fld : Field} {σ' : State}
    (h : propResult req pn p = .ok (fld, σ')) :
    (fld.name = (Names.recase pn .snake).1 ∧ fld.rename = (Names.recase pn .snake).2 ∧
      fld.required = decide (pn ∈ req)) ∧
    (((pn ∈ req ∨ hasIntrinsicDefault (p.2.entry p.1) = true) ∧ (fld.ty, σ') = p) ∨
     ((pn ∉ req ∧ hasIntrinsicDefault (p.2.entry p.1) = false) ∧
        (fld.ty, σ') = assignType (.option p.1) p.2)) := by
  unfold propResult at h
  dsimp only at h
  split at h
  · rename_i hreq
    cases h
    exact ⟨⟨rfl, rfl, by simp [hreq]⟩, Or.inl ⟨Or.inl hreq, rfl⟩⟩
  · rename_i hreq
    split at h
    · rename_i hin
      cases h
      exact ⟨⟨rfl, rfl, by simp [hreq]⟩, Or.inl ⟨Or.inr hin, rfl⟩⟩
    · rename_i hin
      cases h
      exact ⟨⟨rfl, rfl, by simp [hreq]⟩, Or.inr ⟨⟨hreq, by simpa using hin⟩, rfl⟩⟩

theorem structMembers_cons_ok {rec : Name → Sch → State → R (Details × State)} {base : Option Str}
    {req : List Str} {pn : Str} {s : Sch} {ps : List (Str × Sch)} {σ σ' : State} {fs : List Field}
    (h : structMembers rec base req ((pn, s) :: ps) σ = .ok (fs, σ')) :
    ∃ e σ1 fld σ2 fs', rec (propName base pn) s σ = .ok (e, σ1) ∧
      propResult req pn (assignType e σ1) = .ok (fld, σ2) ∧
      structMembers rec base req ps σ2 = .ok (fs', σ') ∧ fs = fld :: fs' := by
  simp only [structMembers, structProperty] at h
  split at h
  · cases h
  · rename_i fld σ2 hp
    split at hp
    · cases hp
    · rename_i e σ1 hr
      split at h
      · cases h
      · rename_i fs' σ3 ht
        simp only [R.ok.injEq, Prod.mk.injEq] at h
        exact ⟨e, σ1, fld, σ2, fs', hr, hp, by rw [← h.2]; exact ht, h.1.symm⟩

/-- Induction over a successful conversion: `C` for `convertLite`, one case per arm of
    `convert_schema`; `M` for the loop over an object's properties (`nil` / `cons`). -/
theorem convertLite_induct
    {C : Nat → Name → Sch → State → Details → State → Prop}
    {M : Nat → Option Str → List Str → List (Str × Sch) → State → List Field → State → Prop}
    (str : ∀ {f n t σ}, C (f + 1) n (.str t) σ .string σ)
    (int : ∀ {f n t σ}, C (f + 1) n (.int t) σ (.integer "i64".toList) σ)
    (bool : ∀ {f n t σ}, C (f + 1) n (.bool t) σ .boolean σ)
    (ref : ∀ {f n t k σ id}, alookup σ.refToId k = some id → C (f + 1) n (.ref t k) σ (.reference id) σ)
    (arr : ∀ {f n t item σ e σ1}, convertLite f (itemName n t) item σ = .ok (e, σ1) →
      C f (itemName n t) item σ e σ1 →
      C (f + 1) n (.arr t item) σ (.vec (assignType e σ1).1) (assignType e σ1).2)
    (nullable : ∀ {f n inner σ e σ1}, convertLite f (innerName n) inner σ = .ok (e, σ1) →
      C f (innerName n) inner σ e σ1 →
      C (f + 1) n (.nullable inner) σ (.option (assignType e σ1).1) (assignType e σ1).2)
    (obj : ∀ {f n t props req closed σ fs σ1 nm},
      structMembers (convertLite f) (getTypeName n t) req props σ = .ok (fs, σ1) →
      M f (getTypeName n t) req props σ fs σ1 → getTypeName n t = some nm →
      C (f + 1) n (.obj t props req closed) σ (.struct nm (sortFields fs) closed) σ1)
    (enumStr : ∀ {f n t vals σ idents nm}, vals ≠ [] → Names.variantNames vals = .ok idents →
      getTypeName n t = some nm → C (f + 1) n (.enumStr t vals) σ (.enum nm (vals.zip idents) false) σ)
    (nil : ∀ {f base req σ}, M f base req [] σ [] σ)
    (cons : ∀ {f base req pn s ps σ e σ1 fld σ2 fs σ3},
      convertLite f (propName base pn) s σ = .ok (e, σ1) → C f (propName base pn) s σ e σ1 →
      propResult req pn (assignType e σ1) = .ok (fld, σ2) →
      structMembers (convertLite f) base req ps σ2 = .ok (fs, σ3) → M f base req ps σ2 fs σ3 →
      M f base req ((pn, s) :: ps) σ (fld :: fs) σ3) :
    ∀ (f : Nat) (n : Name) (s : Sch) (σ σ' : State) (e : Details),
      convertLite f n s σ = .ok (e, σ') → C f n s σ e σ' := by
  intro f
  induction f with
  | zero => intro n s σ σ' e h; simp [convertLite] at h
  | succ f ih =>
    have members : ∀ base req (ps : List (Str × Sch)) σ σ' fs,
        structMembers (convertLite f) base req ps σ = .ok (fs, σ') → M f base req ps σ fs σ' := by
      intro base req ps
      induction ps with
      | nil =>
        intro σ σ' fs h
        simp only [structMembers, R.ok.injEq, Prod.mk.injEq] at h
        obtain ⟨rfl, rfl⟩ := h
        exact nil
      | cons hd tl ihm =>
        obtain ⟨pn, s⟩ := hd
        intro σ σ' fs h
        obtain ⟨e, σ1, fld, σ2, fs', hr, hp, ht, rfl⟩ := structMembers_cons_ok h
        exact cons hr (ih _ _ _ _ _ hr) hp ht (ihm _ _ _ ht)
    intro n s σ σ' e h
    cases s with
    | str t => cases h; exact str
    | int t => cases h; exact int
    | bool t => cases h; exact bool
    | ref t k =>
      simp only [convertLite] at h
      split at h
      · cases h
      · rename_i id hk
        cases h
        exact ref hk
    | arr t item =>
      simp only [convertLite] at h
      split at h
      · cases h
      · rename_i e1 σ1 h1
        cases h
        exact arr h1 (ih _ _ _ _ _ h1)
    | nullable inner =>
      simp only [convertLite] at h
      split at h
      · cases h
      · rename_i e1 σ1 h1
        cases h
        exact nullable h1 (ih _ _ _ _ _ h1)
    | obj t props req closed =>
      simp only [convertLite] at h
      split at h
      · cases h
      · rename_i fs σ1 h1
        split at h
        · cases h
        · rename_i nm hnm
          cases h
          exact obj h1 (members _ _ _ _ _ _ h1) hnm
    | enumStr t vals =>
      simp only [convertLite] at h
      split at h
      · cases h
      · rename_i hne
        split at h
        · cases h
        · rename_i idents hv
          split at h
          · cases h
          · rename_i nm hnm
            cases h
            exact enumStr hne hv hnm

theorem idForSchema_ok {fuel : Nat} {n : Name} {s : Sch} {σ : State} {p : Nat × State}
    (h : idForSchema fuel n s σ = .ok p) :
    ∃ e σ1, convertLite fuel n s σ = .ok (e, σ1) ∧ assignType e σ1 = p := by
  unfold idForSchema at h
  split at h
  · cases h
  · rename_i e σ1 h1
    exact ⟨e, σ1, h1, R.ok.inj h⟩

/-- extension: everything that exists is kept -/
structure Ext (σ σ' : State) : Prop where
  next : σ.nextId ≤ σ'.nextId
  entry : ∀ i, i < σ.nextId → σ'.entry i = σ.entry i
  name : ∀ n i, alookup σ.nameToId n = some i → alookup σ'.nameToId n = some i
  type : ∀ d i, alookup σ.typeToId d = some i → alookup σ'.typeToId d = some i
  ref : σ'.refToId = σ.refToId
  defs : σ'.definitions = σ.definitions

theorem Ext.refl (σ : State) : Ext σ σ :=
  ⟨Nat.le_refl _, fun _ _ => rfl, fun _ _ h => h, fun _ _ h => h, rfl, rfl⟩

theorem Ext.trans {a b c : State} (h1 : Ext a b) (h2 : Ext b c) : Ext a c where
  next := Nat.le_trans h1.next h2.next
  entry := fun i hi => by rw [h2.entry i (Nat.lt_of_lt_of_le hi h1.next), h1.entry i hi]
  name := fun n i h => h2.name n i (h1.name n i h)
  type := fun d i h => h2.type d i (h1.type d i h)
  ref := by rw [h2.ref, h1.ref]
  defs := by rw [h2.defs, h1.defs]

theorem assignType_ext (e : Details) (σ : State) : Ext σ (assignType e σ).2 := by
  have hc := assignType_cases e σ
  generalize assignType e σ = p at hc ⊢
  cases hc with
  | ref => exact Ext.refl σ
  | nameHit => exact Ext.refl σ
  | typeHit => exact Ext.refl σ
  | new _ hname htype =>
    refine ⟨Nat.le_succ _, fun i hi => ?_, fun n i h => ?_, fun d i h => ?_, rfl, rfl⟩
    · rw [alloc_entry, if_neg (Nat.ne_of_gt hi)]
    · rw [alloc_name]
      split
      · rename_i hn; rw [hname n hn] at h; cases h
      · exact h
    · rw [alloc_type]
      split
      · rename_i hd; rw [← hd.2, htype hd.1] at h; cases h
      · exact h

theorem propResult_ext {req : List Str} {pn : Str} {p : Nat × State} {fld : Field} {σ' : State}
    (h : propResult req pn p = .ok (fld, σ')) : Ext p.2 σ' := by
  rcases (propResult_cases h).2 with ⟨_, hp⟩ | ⟨_, hp⟩
  · rw [← hp]; exact Ext.refl _
  · have := assignType_ext (.option p.1) p.2
    rw [← hp] at this; exact this

theorem convertLite_ext : ∀ (f : Nat) (n : Name) (s : Sch) (σ σ' : State) (e : Details),
    convertLite f n s σ = .ok (e, σ') → Ext σ σ' := by
  apply convertLite_induct (C := fun _ _ _ σ _ σ' => Ext σ σ') (M := fun _ _ _ _ σ _ σ' => Ext σ σ')
  case str => exact Ext.refl _
  case int => exact Ext.refl _
  case bool => exact Ext.refl _
  case ref => exact fun _ => Ext.refl _
  case enumStr => exact fun _ _ _ => Ext.refl _
  case nil => exact Ext.refl _
  case arr => exact fun _ ih => ih.trans (assignType_ext _ _)
  case nullable => exact fun _ ih => ih.trans (assignType_ext _ _)
  case obj => exact fun _ ih _ => ih
  case cons =>
    exact fun _ ih hp _ iht => ((ih.trans (assignType_ext _ _)).trans (propResult_ext hp)).trans iht

theorem structMembers_ext {f : Nat} {base : Option Str} {req : List Str} {ps : List (Str × Sch)}
    {σ σ' : State} {fs : List Field} (h : structMembers (convertLite f) base req ps σ = .ok (fs, σ')) :
    Ext σ σ' := by
  induction ps generalizing σ fs with
  | nil => simp only [structMembers, R.ok.injEq, Prod.mk.injEq] at h; rw [← h.2]; exact Ext.refl σ
  | cons hd tl ih =>
    obtain ⟨e, σ1, fld, σ2, fs', hr, hp, ht, _⟩ := structMembers_cons_ok h
    exact (((convertLite_ext _ _ _ _ _ _ hr).trans (assignType_ext e σ1)).trans (propResult_ext hp)).trans (ih ht)

/-! ### the finalize loop touches only the ids it is given and only `id_to_entry` -/

structure Finalized (σ σ' : State) : Prop where
  next : σ'.nextId = σ.nextId
  name : σ'.nameToId = σ.nameToId
  type : σ'.typeToId = σ.typeToId
  ref : σ'.refToId = σ.refToId
  entry : ∀ i, σ'.entry i = σ.entry i ∨ σ'.entry i = (σ.entry i).map finalizeEntry

theorem finalizeEntry_idem (e : Details) : finalizeEntry (finalizeEntry e) = finalizeEntry e := by
  cases e <;> simp [finalizeEntry]

theorem finalizeIds_spec : ∀ (l : List Nat) (σ σ' : State), finalizeIds l σ = .ok σ' →
    Finalized σ σ' ∧ ∀ i, i ∉ l → σ'.entry i = σ.entry i := by
  intro l
  induction l with
  | nil =>
    intro σ σ' h
    simp only [finalizeIds, R.ok.injEq] at h
    subst h
    exact ⟨⟨rfl, rfl, rfl, rfl, fun _ => Or.inl rfl⟩, fun _ _ => rfl⟩
  | cons a r ih =>
    intro σ σ' h
    simp only [finalizeIds] at h
    split at h
    · cases h
    · rename_i e he
      obtain ⟨h1, h2⟩ := ih _ _ h
      refine ⟨⟨h1.next, h1.name, h1.type, h1.ref, fun i => ?_⟩, fun i hi => ?_⟩
      · -- the entry at `a` was finalized once before the rest of the loop ran
        have h3 := h1.entry
        simp only [entry_setEntry] at h3
        by_cases hai : a = i
        · subst hai
          right
          rcases h3 a with h | h <;> simp [h, he, finalizeEntry_idem]
        · simpa [hai] using h3 i
      · rw [h2 i (fun hm => hi (List.mem_cons_of_mem _ hm)), entry_setEntry,
          if_neg (fun hai => hi (by rw [hai]; exact List.mem_cons_self))]

theorem finalizeFrom_spec {base : Nat} {σ σ' : State} (h : finalizeFrom base σ = .ok σ') :
    Finalized σ σ' ∧ ∀ i, i < base → σ'.entry i = σ.entry i := by
  obtain ⟨h1, h2⟩ := finalizeIds_spec _ _ _ h
  refine ⟨h1, fun i hi => h2 i (fun hm => ?_)⟩
  obtain ⟨j, _, hj⟩ := List.mem_range'.mp hm
  omega

end TypifyModel.Space
