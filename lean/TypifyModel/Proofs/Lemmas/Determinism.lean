import TypifyModel.Model.Determinism
/-! `BTreeMap::insert` and insertion sort commute with themselves and keep their lists sorted; the hash-set consumers
    compute order-free facts (`Nodup`, membership). -/
namespace TypifyModel.Determinism

variable {K V α : Type}

theorem insertSorted_comm [DecidableEq K] (o : LinOrd K) (k1 k2 : K) (v1 v2 : V) (hne : k1 ≠ k2)
    (m : List (K × V)) :
    insertSorted o k1 v1 (insertSorted o k2 v2 m) = insertSorted o k2 v2 (insertSorted o k1 v1 m) := by
  have anti := o.antisymm
  have tr := o.trans
  have tot := o.total
  -- a case split on how `k1`, `k2` and the head compare, each case closed by the order laws
  induction m with
  | nil => grind [insertSorted]
  | cons kv rest ih =>
    obtain ⟨k', v'⟩ := kv
    grind [insertSorted]

theorem mem_keys_insertSorted [DecidableEq K] (o : LinOrd K) (k : K) (v : V) (m : List (K × V)) (k' : K) :
    k' ∈ (insertSorted o k v m).map (·.1) ↔ k' = k ∨ k' ∈ m.map (·.1) := by
  induction m with
  | nil => simp [insertSorted]
  | cons kv rest ih =>
    rw [insertSorted]
    split
    · subst_vars; simp
    · split
      · simp
      · simp only [List.map_cons, List.mem_cons, ih]; exact or_left_comm

theorem insertSorted_sorted [DecidableEq K] (o : LinOrd K) (k : K) (v : V) (m : List (K × V))
    (hs : SortedKeys o m) : SortedKeys o (insertSorted o k v m) := by
  induction m with
  | nil => exact List.pairwise_singleton _ _
  | cons kv rest ih =>
    obtain ⟨h0, hrest⟩ := List.pairwise_cons.mp hs
    rw [insertSorted]
    split
    · subst_vars; exact List.pairwise_cons.mpr ⟨h0, hrest⟩
    · rename_i hne
      split
      · rename_i hle
        refine List.pairwise_cons.mpr ⟨fun a ha => ?_, hs⟩
        rcases List.mem_cons.mp ha with rfl | ha
        · exact ⟨hle, hne⟩
        · -- `k ≤ kv.1 < a.1`
          have ⟨h1, h2⟩ := h0 a ha
          exact ⟨o.trans _ _ _ hle h1, fun e => h2 (o.antisymm _ _ h1 (e ▸ hle))⟩
      · rename_i hle
        refine List.pairwise_cons.mpr ⟨fun a ha => ?_, ih hrest⟩
        rcases (mem_keys_insertSorted o k v rest a.1).mp (List.mem_map_of_mem ha) with hk | hk
        · -- `kv.1 < k`, as `k ≤ kv.1` fails
          exact hk ▸ ⟨(o.total k kv.1).resolve_left hle, fun e => hne e.symm⟩
        · obtain ⟨b, hb, hbk⟩ := List.mem_map.mp hk
          exact hbk ▸ h0 b hb

theorem insertMany_sorted [DecidableEq K] (o : LinOrd K) (xs m : List (K × V))
    (hs : SortedKeys o m) : SortedKeys o (insertMany o m xs) := by
  induction xs generalizing m with
  | nil => exact hs
  | cons x xs ih => exact ih _ (insertSorted_sorted o x.1 x.2 m hs)

theorem mem_keys_insertMany [DecidableEq K] (o : LinOrd K) (xs m : List (K × V)) (k' : K) :
    k' ∈ (insertMany o m xs).map (·.1) ↔ k' ∈ m.map (·.1) ∨ k' ∈ xs.map (·.1) := by
  induction xs generalizing m with
  | nil => simp [insertMany]
  | cons x xs ih =>
    rw [insertMany, List.foldl_cons, ← insertMany, ih, mem_keys_insertSorted, List.map_cons,
      List.mem_cons, or_comm (a := k' = x.1), or_assoc]

theorem NoDupKeys.perm {xs ys : List (K × V)} (hp : xs.Perm ys) (h : NoDupKeys xs) : NoDupKeys ys :=
  (List.Perm.nodup_iff (hp.map (fun kv : K × V => kv.1))).mp h

/-- inserting a duplicate-key-free list of pairs gives the same map in every order: neighbours
    have different keys, and such inserts commute -/
theorem insertMany_perm [DecidableEq K] (o : LinOrd K) {xs ys : List (K × V)} (hp : xs.Perm ys)
    (hnd : NoDupKeys xs) (m : List (K × V)) : insertMany o m xs = insertMany o m ys := by
  induction hp generalizing m with
  | nil => rfl
  | cons x _ ih => exact ih (List.nodup_cons.mp hnd).2 _
  | swap x y l =>
    have hne : x.1 ≠ y.1 := fun e =>
      (List.nodup_cons.mp hnd).1 (List.mem_map.mpr ⟨x, List.mem_cons_self, e⟩)
    exact congrArg (insertMany o · l) (insertSorted_comm o x.1 y.1 x.2 y.2 hne m)
  | trans h1 _ ih1 ih2 => exact (ih1 hnd m).trans (ih2 (hnd.perm h1) m)

/-- without duplicate keys the first pair may as well be inserted last -/
theorem toMap_cons [DecidableEq K] (o : LinOrd K) (x : K × V) (xs : List (K × V))
    (hnd : NoDupKeys (x :: xs)) : toMap o (x :: xs) = insertSorted o x.1 x.2 (toMap o xs) := by
  have hp : (x :: xs).Perm (xs ++ [x]) := List.perm_append_comm (l₁ := [x])
  rw [toMap, insertMany_perm o hp hnd [], insertMany, List.foldl_append]
  rfl

theorem lookup_insertSorted_self [DecidableEq K] (o : LinOrd K) (k : K) (v : V) (m : List (K × V)) :
    lookup k (insertSorted o k v m) = some v := by
  induction m with
  | nil => exact if_pos rfl
  | cons kv rest ih =>
    rw [insertSorted]
    split
    · exact if_pos rfl
    · split
      · exact if_pos rfl
      · exact (if_neg ‹_›).trans ih

theorem canonMembers_eq_map (l : List (String × Json)) :
    canonMembers l = l.map fun kv => (kv.1, canon kv.2) := by
  induction l with
  | nil => rfl
  | cons x l ih => obtain ⟨k, v⟩ := x; rw [canonMembers, ih]; rfl

theorem canonMembers_keys (l : List (String × Json)) : (canonMembers l).map (·.1) = l.map (·.1) := by
  rw [canonMembers_eq_map, List.map_map]; rfl

theorem noDupMembers_eq_all (l : List (String × Json)) :
    noDupMembers l = l.all fun kv => noDupDeep kv.2 := by
  induction l with
  | nil => rfl
  | cons x l ih => obtain ⟨k, v⟩ := x; rw [noDupMembers, ih]; rfl

theorem noDupDeep_obj {kvs : List (String × Json)} :
    noDupDeep (.obj kvs) = true ↔ NoDupKeys kvs ∧ noDupMembers kvs = true := by
  simp [noDupDeep, NoDupKeys]

theorem orderedInsert_comm (o : LinOrd α) (a b : α) (l : List α) :
    orderedInsert o a (orderedInsert o b l) = orderedInsert o b (orderedInsert o a l) := by
  have anti := o.antisymm
  have tr := o.trans
  have tot := o.total
  -- as for `insertSorted_comm`
  induction l with
  | nil => grind [orderedInsert]
  | cons c rest ih => grind [orderedInsert]

theorem orderedInsert_perm (o : LinOrd α) (a : α) (l : List α) : (orderedInsert o a l).Perm (a :: l) := by
  induction l with
  | nil => exact .refl _
  | cons b l ih =>
    rw [orderedInsert]
    split
    · exact .refl _
    · exact (ih.cons b).trans (.swap a b l)

theorem insertionSort_perm_self (o : LinOrd α) (l : List α) : (insertionSort o l).Perm l := by
  induction l with
  | nil => exact .refl _
  | cons a l ih => exact (orderedInsert_perm o a _).trans (ih.cons a)

theorem orderedInsert_sorted (o : LinOrd α) (a : α) (l : List α) (hs : Sorted o l) :
    Sorted o (orderedInsert o a l) := by
  induction l with
  | nil => exact List.pairwise_singleton _ _
  | cons b l ih =>
    obtain ⟨h0, hrest⟩ := List.pairwise_cons.mp hs
    rw [orderedInsert]
    split
    · rename_i hle
      exact List.pairwise_cons.mpr ⟨List.forall_mem_cons.mpr
        ⟨hle, fun c hc => o.trans _ _ _ hle (h0 c hc)⟩, hs⟩
    · rename_i hle
      refine List.pairwise_cons.mpr ⟨fun c hc => ?_, ih hrest⟩
      rcases List.mem_cons.mp ((orderedInsert_perm o a l).mem_iff.mp hc) with rfl | hc
      · exact (o.total c b).resolve_left hle
      · exact h0 c hc

theorem insertionSort_sorted (o : LinOrd α) (l : List α) : Sorted o (insertionSort o l) := by
  induction l with
  | nil => exact .nil
  | cons a l ih => exact orderedInsert_sorted o a _ ih

theorem insertAll_iff [DecidableEq α] (xs seen : List α) :
    insertAll xs seen = true ↔ xs.Nodup ∧ ∀ x ∈ xs, x ∉ seen := by
  induction xs generalizing seen with
  | nil => simp [insertAll]
  | cons x xs ih =>
    rw [insertAll]
    split
    · exact ⟨nofun, fun h => absurd ‹x ∈ seen› (h.2 x List.mem_cons_self)⟩
    · rw [ih, List.nodup_cons, List.forall_mem_cons]
      simp only [List.mem_cons, not_or]
      constructor
      · exact fun ⟨hnd, hall⟩ => ⟨⟨fun hm => (hall x hm).1 rfl, hnd⟩, ‹_›, fun y hy => (hall y hy).2⟩
      · exact fun ⟨⟨hnot, hnd⟩, _, hall⟩ => ⟨hnd, fun y hy => ⟨fun e => hnot (e ▸ hy), hall y hy⟩⟩

theorem collectStep_mem [DecidableEq α] (xs s : List α) (a : α) :
    a ∈ xs.foldl (fun s x => if x ∈ s then s else x :: s) s ↔ a ∈ s ∨ a ∈ xs := by
  induction xs generalizing s with
  | nil => simp
  | cons x xs ih =>
    have step : a ∈ (if x ∈ s then s else x :: s) ↔ a = x ∨ a ∈ s := by
      split
      · exact ⟨.inr, fun h => h.elim (· ▸ ‹x ∈ s›) id⟩
      · exact List.mem_cons
    rw [List.foldl_cons, ih, step, List.mem_cons, or_comm (a := a = x), or_assoc]

theorem collectStep_nodup [DecidableEq α] (xs s : List α) (hs : s.Nodup) :
    (xs.foldl (fun s x => if x ∈ s then s else x :: s) s).Nodup := by
  induction xs generalizing s with
  | nil => exact hs
  | cons x xs ih =>
    refine ih (if x ∈ s then s else x :: s) ?_
    split
    · exact hs
    · exact List.nodup_cons.mpr ⟨‹_›, hs⟩

theorem mem_collectSet [DecidableEq α] (xs : List α) (a : α) : a ∈ collectSet xs ↔ a ∈ xs := by
  unfold collectSet; rw [collectStep_mem]; simp

theorem collectSet_nodup [DecidableEq α] (xs : List α) : (collectSet xs).Nodup :=
  collectStep_nodup xs [] List.nodup_nil

end TypifyModel.Determinism
