import TypifyModel.Proofs.Lemmas.SpaceDenote
/-! C16 helpers for `split_inv`, batch level: what one `add_ref_types` call adds to the set of named
    definitions is denoted by its schemas (`batch_char`), a characterisation `RunChar` of the states
    reachable by a sequence of batches, and the comparison of two such states (`sameDefs_of_runChar`). -/
set_option autoImplicit false
namespace TypifyModel.Space
open TypifyModel.Names (Str)

/-- the shape of the entry `convert_ref_type` puts at a definition's id -/
def defShape (rn : RefKey → Option Str) (f : Nat) (n : Name) (s : Sch) : Option Shape :=
  match s with
  | .obj _ _ _ _ => shapeOf rn f n s
  | .enumStr _ _ => shapeOf rn f n s
  | _ => (treeOf rn f n s).map .newtype

/-- the `(name, shape)` pairs one definition contributes: its own entry and its inline types -/
def defExpected (rn : RefKey → Option Str) (f : Nat) (d : RefKey × Sch) : List (Str × Shape) :=
  (match defName d, defShape rn f (keyName d.1) d.2 with
   | some nm, some sh => [(nm, sh)]
   | _, _ => []) ++ expected rn f (keyName d.1) d.2

def batchExpected (rn : RefKey → Option Str) (f : Nat) (defs : List (RefKey × Sch)) : List (Str × Shape) :=
  defs.flatMap (defExpected rn f)

theorem defShape_named {rn : RefKey → Option Str} {f : Nat} {n : Name} {s : Sch} {nm : Str}
    (h : topName n s = some nm) : defShape rn f n s = shapeOf rn f n s := by
  cases s <;> first | rfl | cases h

theorem defShape_unnamed {rn : RefKey → Option Str} {f : Nat} {n : Name} {s : Sch} {x : Tree}
    (h : topName n s = none) (hx : treeOf rn f n s = some x) :
    defShape rn f n s = some (.newtype x) := by
  cases f with
  | zero => cases hx
  | succ f =>
    cases s with
    | obj t _ _ _ => simp only [treeOf, show getTypeName n t = none from h] at hx; cases hx
    | enumStr t _ => simp only [treeOf, show getTypeName n t = none from h] at hx; cases hx
    | _ => simp only [defShape, hx, Option.map_some]

theorem convertRefType_sound {rn : RefKey → Option Str} {fuel : Nat} {k : RefKey} {s : Sch} {tid : Nat}
    {σ σ' : State} (h : convertRefType fuel (keyName k) s tid σ = .ok σ') (hi : Inv σ)
    (ht : tid < σ.nextId) (hnone : σ.entry tid = none) :
    ∀ i d m, (i = tid ∨ σ.nextId ≤ i) → σ'.entry i = some d → d.name? = some m → ∀ τ, Keeps σ' τ →
      RefNamed rn σ.refToId τ → ∃ sh, (m, sh) ∈ defExpected rn fuel (k, s) ∧ ShapeOf τ d sh := by
  obtain ⟨e, σ1, nm, h1, hg, hc⟩ := convertRefType_ok h
  have hs := convertLite_sound rn _ _ _ _ _ _ h1 hi
  obtain ⟨i1, hids⟩ := convertLite_inv _ _ _ _ _ _ h1 hi
  have hx1 := convertLite_ext _ _ _ _ _ _ h1
  have hname := convertLite_name h1
  -- the state the definition's entry is inserted into, the entry and its shape, what else is new
  have key : ∃ ent σ2, σ' = insertDef σ2 nm tid ent ∧ ent.name? = some nm ∧ Ext σ1 σ2 ∧
      NewIn rn (expected rn fuel (keyName k) s) σ.nextId σ.refToId σ2 ∧
      ∀ τ, Keeps σ2 τ → RefNamed rn σ.refToId τ →
        ∃ sh, defShape rn fuel (keyName k) s = some sh ∧ ShapeOf τ ent sh := by
    rcases hc with ⟨hn, rfl⟩ | ⟨hn, rfl⟩
    · refine ⟨e, σ1, rfl, hn, Ext.refl _, hs.new, fun τ hk hrn => ?_⟩
      obtain ⟨sh, h2, h3⟩ := hs.shape nm hn τ hk hrn
      exact ⟨sh, by rw [defShape_named (hname ▸ hn)]; exact h2, h3⟩
    · refine ⟨_, _, rfl, rfl, assignType_ext _ _, NewIn.assign_unnamed hs.new i1 hn, fun τ hk hrn => ?_⟩
      obtain ⟨x, hx, hres, _⟩ := hs.tree τ hk hrn
      exact ⟨.newtype x, defShape_unnamed (hname ▸ hn) hx, .newtype hres⟩
  obtain ⟨ent, σ2, rfl, hn, hx2, hnew, hshape⟩ := key
  intro i d m hcase hd hm τ hk hrn
  have hnone2 : σ2.entry tid = none := by rw [(hx1.trans hx2).entry tid ht]; exact hnone
  have hk2 : Keeps σ2 τ := (keeps_insertDef hnone2).trans hk
  rw [insertDef_entry] at hd
  split at hd
  · cases hd
    rw [hn] at hm; cases hm
    obtain ⟨sh, h2, h3⟩ := hshape τ hk2 hrn
    have hdn : defName (k, s) = some nm := hg
    exact ⟨sh, List.mem_append_left _ (by simp [hdn, h2]), h3⟩
  · rename_i hti
    obtain ⟨sh, h2, h3⟩ := hnew i d m (hcase.resolve_left (fun h => hti h.symm)) hd hm τ hk2 hrn
    exact ⟨sh, List.mem_append_right _ h2, h3⟩

theorem batchExpected_append (rn : RefKey → Option Str) (f : Nat) (a b : List (RefKey × Sch)) :
    batchExpected rn f (a ++ b) = batchExpected rn f a ++ batchExpected rn f b := by
  unfold batchExpected; simp

theorem batchNames_append (a b : List (RefKey × Sch)) : batchNames (a ++ b) = batchNames a ++ batchNames b := by
  unfold batchNames; simp

theorem batchAssigned_append (f : Nat) (a b : List (RefKey × Sch)) :
    batchAssigned f (a ++ b) = batchAssigned f a ++ batchAssigned f b := by
  unfold batchAssigned; simp

/-- the invariant of the conversion loop used for `split_inv`; `pre`: the definitions converted so
    far are the first `i`, what they created is denoted by them, their names are bound -/
structure LoopInv (rn : RefKey → Option Str) (fuel : Nat) (defs : List (RefKey × Sch)) (σ0 : State)
    (r : List (RefKey × Sch)) (i : Nat) (τc : State) : Prop where
  pre : ∃ pre, defs = pre ++ r ∧ pre.length = i ∧
    (∀ j d m, σ0.nextId ≤ j → τc.entry j = some d → d.name? = some m → ∀ τ, Keeps τc τ →
      RefNamed rn (reserved defs σ0).refToId τ → ∃ sh, (m, sh) ∈ batchExpected rn fuel pre ∧ ShapeOf τ d sh) ∧
    (∀ m, m ∈ batchNames pre ++ batchAssigned fuel pre → HasName τc m)
  refs : τc.refToId = (reserved defs σ0).refToId
  mono : ∀ m, HasName σ0 m → HasName τc m
  filled : ∀ j, j < i → ∃ k s d nm, defs[j]? = some (k, s) ∧ τc.entry (σ0.nextId + j) = some d ∧
    d.name? = some nm ∧ defName (k, s) = some nm

theorem loopInv_step {rn : RefKey → Option Str} {fuel : Nat} {defs : List (RefKey × Sch)} {σ0 : State}
    (k : RefKey) (s : Sch) (r : List (RefKey × Sch)) (i : Nat) (τc τ1 : State)
    (it : Inv τc) (hlt : σ0.nextId + i < τc.nextId) (hnone : τc.entry (σ0.nextId + i) = none)
    (hp : LoopInv rn fuel defs σ0 ((k, s) :: r) i τc)
    (hc : convertRefType fuel (keyName k) s (σ0.nextId + i) τc = .ok τ1) :
    LoopInv rn fuel defs σ0 r (i + 1) τ1 := by
  obtain ⟨pre, hdefs, hlen, hsound, hbound⟩ := hp.pre
  obtain ⟨ent, nm, σ2, hx, hn, hg, hτ1, _⟩ := convertRefType_insert hc
  have hold := (convertRefType_frame hc).2
  have hk01 : Keeps τc τ1 := fun j e he => Or.inl (by
    rw [hold j (it.entry_lt j e he) (fun h => by rw [h, hnone] at he; cases he)]; exact he)
  have hname : ∀ {m}, HasName τ1 m ↔ _ := convertRefType_hasName hc
  refine ⟨⟨pre ++ [(k, s)], by rw [hdefs]; simp, by simp [hlen], ?_, fun m hm => ?_⟩,
    by rw [hτ1]; exact hx.ref.trans hp.refs, fun m hm => hname.mpr (Or.inl (hp.mono m hm)), fun j hj => ?_⟩
  · intro j d m hge hd hm τ hk hrn
    rw [batchExpected_append]
    by_cases hcase : j = σ0.nextId + i ∨ τc.nextId ≤ j
    · obtain ⟨sh, h1, h2⟩ := convertRefType_sound (rn := rn) hc it hlt hnone j d m hcase hd hm τ hk
        (by rw [hp.refs]; exact hrn)
      exact ⟨sh, List.mem_append_right _ (by simpa [batchExpected] using h1), h2⟩
    · rw [hold j (Nat.lt_of_not_le (fun h => hcase (Or.inr h))) (fun h => hcase (Or.inl h))] at hd
      obtain ⟨sh, h3, h4⟩ := hsound j d m hge hd hm τ (hk01.trans hk) hrn
      exact ⟨sh, List.mem_append_left _ h3, h4⟩
  · rw [batchNames_append, batchAssigned_append, batchNames_cons] at hm
    simp only [List.mem_append, Option.mem_toList, batchNames, batchAssigned, List.filterMap_nil,
      List.flatMap_cons, List.flatMap_nil, List.append_nil] at hm
    rcases hm with (hm | hm) | (hm | hm)
    · exact hname.mpr (Or.inl (hbound m (List.mem_append_left _ hm)))
    · exact hname.mpr (Or.inr (Or.inr hm))
    · exact hname.mpr (Or.inl (hbound m (List.mem_append_right _ hm)))
    · exact hname.mpr (Or.inr (Or.inl hm))
  · by_cases hji : j = i
    · subst hji
      exact ⟨k, s, ent, nm, by rw [hdefs, ← hlen]; simp, by rw [hτ1, insertDef_entry, if_pos rfl], hn, hg⟩
    · obtain ⟨k', s', d, nm', h1, h2, h3, h4⟩ := hp.filled j (by omega)
      exact ⟨k', s', d, nm', h1, by rw [hold _ (by omega) (by omega)]; exact h2, h3, h4⟩

/-- **what one batch adds is denoted by its schemas** -/
theorem batch_char {rn : RefKey → Option Str} {fuel : Nat} {defs : List (RefKey × Sch)} {σ0 σ' : State}
    (h : addRefTypesImpl fuel defs σ0 = .ok σ') (hi : Inv σ0) :
    (∀ j d m, σ0.nextId ≤ j → σ'.entry j = some d → d.name? = some m → ∀ τ, Keeps σ' τ →
      RefNamed rn σ'.refToId τ → ∃ sh, (m, sh) ∈ batchExpected rn fuel defs ∧ ShapeOf τ d sh) ∧
    (∀ m, HasName σ0 m → HasName σ' m) ∧
    (∀ m, m ∈ batchNames defs ++ batchAssigned fuel defs → HasName σ' m) ∧
    (RefNamed rn σ0.refToId σ0 → (∀ d ∈ defs, ∀ nm, defName d = some nm → rn d.1 = some nm) →
      RefNamed rn σ'.refToId σ') := by
  obtain ⟨σ2, h2, hs, hbelow⟩ := addRefTypesImpl_steps h
  have hloop := convertDefs_ind_inv (P := LoopInv rn fuel defs σ0) hi
    (fun k s r i τc τ1 _ it hlt hnone hp hc => loopInv_step k s r i τc τ1 it hlt hnone hp hc) h2
    ⟨⟨[], rfl, rfl, ⟨fun j d m hge hd _ => (by
        rw [reserved_entry, hi.entry_none hge] at hd; cases hd),
      fun m hm => (by simp [batchNames, batchAssigned] at hm)⟩⟩, rfl,
     fun m hm => (hasName_congr (reserved_nameToId defs σ0)).mpr hm,
     fun j hj => by omega⟩
  obtain ⟨⟨⟨pre, hdefs, hlen, hsound, hbound⟩, hrefs, hmono, hfilled⟩, i2⟩ := hloop
  have hpre : pre = defs := by rw [hdefs]; simp
  rw [hpre] at hsound hbound
  have hk2 : Keeps σ2 σ' := hs.keeps
  have hrefs' : σ'.refToId = (reserved defs σ0).refToId := by rw [hs.ref, hrefs]
  have hname : ∀ m, HasName σ2 m → HasName σ' m := fun m => (hasName_congr hs.name).mpr
  refine ⟨?_, fun m hm => hname m (hmono m hm), fun m hm => hname m (hbound m hm), ?_⟩
  · intro j d m hge hd hm τ hk hrn
    obtain ⟨d2, hσ, hd2, _, hname⟩ := hs.back hd
    obtain ⟨sh, h4, h5⟩ := hsound j d2 m hge hσ (hname ▸ hm) τ (hk2.trans hk) (hrefs' ▸ hrn)
    refine ⟨sh, h4, ?_⟩
    rcases hd2 with rfl | rfl
    · exact h5
    · exact (h5.keeps (Keeps.refl τ)).2
  · intro hr0 hcompat k t hk
    rw [hrefs'] at hk
    rcases (reserve_spec _ _ _ _).2.2.2.2 _ _ hk with h1 | ⟨j, s, hj, hid⟩
    · obtain ⟨d, nm, hd, hdn, hrn⟩ := hr0 k t h1
      have hlt := hi.entry_lt t d hd
      exact ⟨d, nm, by rw [hbelow t hlt, (convertDefs_frame h2).2 t hlt]; exact hd, hdn, hrn⟩
    · obtain ⟨k', s', d, nm, h1, h4, h5, h6⟩ := hfilled j (List.getElem?_eq_some_iff.mp hj).1
      rw [hj] at h1; cases h1
      rw [Nat.zero_add] at hid
      subst hid
      obtain ⟨d', h7, hn'⟩ := hk2.named h4 h5
      exact ⟨d', nm, h7, hn', hcompat (k, s) (List.mem_of_getElem? hj) nm h6⟩

theorem batchExpected_names {rn : RefKey → Option Str} {f : Nat} {defs : List (RefKey × Sch)} {m : Str}
    {sh : Shape} (h : (m, sh) ∈ batchExpected rn f defs) : m ∈ batchNames defs ++ batchAssigned f defs := by
  unfold batchExpected at h
  obtain ⟨d, hd, hm⟩ := List.mem_flatMap.mp h
  unfold defExpected at hm
  rcases List.mem_append.mp hm with hm | hm
  · refine List.mem_append_left _ ?_
    split at hm
    · rename_i nm sh' h1 _
      simp only [List.mem_singleton, Prod.mk.injEq] at hm
      unfold batchNames
      exact List.mem_filterMap.mpr ⟨d, hd, by rw [hm.1]; exact h1⟩
    · simp at hm
  · refine List.mem_append_right _ ?_
    unfold batchAssigned
    exact List.mem_flatMap.mpr ⟨d, hd, expected_names rn _ _ _ _ _ hm⟩

/-- `F` is `σ0` plus named definitions all denoted by `E`, every name of `E` bound -/
structure RunChar (rn : RefKey → Option Str) (E : List (Str × Shape)) (σ0 F : State) : Prop where
  inv : Inv F
  inj : NameInj F
  refs : RefNamed rn F.refToId F
  next : σ0.nextId ≤ F.nextId
  frame : ∀ i, i < σ0.nextId → F.entry i = σ0.entry i
  sound : ∀ j d m, σ0.nextId ≤ j → F.entry j = some d → d.name? = some m →
    ∃ sh, (m, sh) ∈ E ∧ ShapeOf F d sh
  bound : ∀ m sh, (m, sh) ∈ E → HasName F m

theorem RunChar.init {rn : RefKey → Option Str} {σ0 : State} (hi : Inv σ0) (hinj : NameInj σ0)
    (hr : RefNamed rn σ0.refToId σ0) : RunChar rn [] σ0 σ0 where
  inv := hi
  inj := hinj
  refs := hr
  next := Nat.le_refl _
  frame := fun _ _ => rfl
  sound := fun j d m hge hd _ => by rw [hi.entry_none hge] at hd; cases hd
  bound := fun m sh h => by cases h

theorem RunChar.step {rn : RefKey → Option Str} {E : List (Str × Shape)} {σ0 F F' : State} {fuel : Nat}
    {defs : List (RefKey × Sch)} (hc : RunChar rn E σ0 F) (h : addRefTypesImpl fuel defs F = .ok F')
    (hd : DistinctBatches defs F) (hn : NoNameCollision fuel defs)
    (hcompat : ∀ d ∈ defs, ∀ nm, defName d = some nm → rn d.1 = some nm) :
    RunChar rn (E ++ batchExpected rn fuel defs) σ0 F' := by
  obtain ⟨b1, b2, b3, b4⟩ := batch_char (rn := rn) h hc.inv
  obtain ⟨fn, ff⟩ := addRefTypesImpl_frame h
  have i' := addRefTypesImpl_inv h hc.inv
  have hk : Keeps F F' := keeps_of_frame hc.inv ff
  have hr' := b4 hc.refs hcompat
  refine ⟨i', addRefTypesImpl_nameInj h hc.inv hc.inj hd hn, hr', Nat.le_trans hc.next fn,
    fun i hi => by rw [ff i (Nat.lt_of_lt_of_le hi hc.next), hc.frame i hi], ?_, ?_⟩
  · intro j d m hge hd' hm
    by_cases hlt : j < F.nextId
    · rw [ff j hlt] at hd'
      obtain ⟨sh, h1, h2⟩ := hc.sound j d m hge hd' hm
      exact ⟨sh, List.mem_append_left _ h1, (h2.keeps hk).1⟩
    · obtain ⟨sh, h1, h2⟩ := b1 j d m (Nat.le_of_not_lt hlt) hd' hm F' (Keeps.refl _) hr'
      exact ⟨sh, List.mem_append_right _ h1, h2⟩
  · intro m sh hm
    rcases List.mem_append.mp hm with hm | hm
    · exact b2 m (hc.bound m sh hm)
    · exact b3 m (batchExpected_names hm)

/-! ### resolution of old ids does not depend on what was added later -/

theorem Res.frame_back {σ0 F : State} (hi : Inv σ0) (hf : ∀ i, i < σ0.nextId → F.entry i = σ0.entry i)
    {c : Nat} {x : Tree} (h : Res F c x) (hc : c < σ0.nextId) : Res σ0 c x := by
  have back : ∀ {i e}, i < σ0.nextId → F.entry i = some e → σ0.entry i = some e :=
    fun hi he => by rw [← hf _ hi]; exact he
  induction h with
  | named he hn => exact .named (back hc he) hn
  | string he => exact .string (back hc he)
  | integer he => exact .integer (back hc he)
  | boolean he => exact .boolean (back hc he)
  | option he _ ih =>
    exact .option (back hc he) (ih (hi.child_lt _ _ (back hc he) _ (List.mem_singleton.mpr rfl)))
  | vec he _ ih =>
    exact .vec (back hc he) (ih (hi.child_lt _ _ (back hc he) _ (List.mem_singleton.mpr rfl)))
  | box he _ ih =>
    exact .box (back hc he) (ih (hi.child_lt _ _ (back hc he) _ (List.mem_singleton.mpr rfl)))

theorem FieldsRes.frame_back {σ0 F : State} (hi : Inv σ0) (hf : ∀ i, i < σ0.nextId → F.entry i = σ0.entry i)
    {fs : List Field} {ts : List FieldT} (h : FieldsRes F fs ts) (hlt : ∀ f ∈ fs, f.ty < σ0.nextId) :
    FieldsRes σ0 fs ts := by
  induction h with
  | nil => exact .nil
  | cons hr _ ih =>
    exact .cons (hr.frame_back hi hf (hlt _ List.mem_cons_self))
      (ih (fun f hm => hlt f (List.mem_cons_of_mem _ hm)))

theorem ShapeOf.frame_back {σ0 F : State} (hi : Inv σ0) (hf : ∀ i, i < σ0.nextId → F.entry i = σ0.entry i)
    {e : Details} {sh : Shape} (h : ShapeOf F e sh) (hlt : ∀ c ∈ e.ids, c < σ0.nextId) : ShapeOf σ0 e sh := by
  cases h with
  | enum => exact .enum
  | struct hfr =>
    exact .struct (hfr.frame_back hi hf (fun f hm => hlt f.ty (by
      simp only [Details.ids, List.mem_map]; exact ⟨f, hm, rfl⟩)))
  | newtype hr => exact .newtype (hr.frame_back hi hf (hlt _ (by simp [Details.ids])))

theorem namedDef_transfer {rn : RefKey → Option Str} {E1 E2 : List (Str × Shape)} {σ0 F1 F2 : State}
    (h0 : Inv σ0) (c1 : RunChar rn E1 σ0 F1) (c2 : RunChar rn E2 σ0 F2) (hsub : ∀ x, x ∈ E1 → x ∈ E2)
    (hfun : ∀ m sh sh', (m, sh) ∈ E2 → (m, sh') ∈ E2 → sh = sh') {n : Str} {sh : Shape}
    (h : NamedDef F1 n sh) : NamedDef F2 n sh := by
  obtain ⟨i, e, he, hn, hsh⟩ := h
  by_cases hlt : i < σ0.nextId
  · have he0 : σ0.entry i = some e := by rw [← c1.frame i hlt]; exact he
    have hsh0 := hsh.frame_back h0 c1.frame (h0.child_lt i e he0)
    have hk : Keeps σ0 F2 := keeps_of_frame h0 (fun j hj => c2.frame j hj)
    exact ⟨i, e, by rw [c2.frame i hlt]; exact he0, hn, (hsh0.keeps hk).1⟩
  · obtain ⟨sh1, hm1, hs1⟩ := c1.sound i e n (Nat.le_of_not_lt hlt) he hn
    have : sh1 = sh := hs1.unique hsh
    subst this
    obtain ⟨j, hl⟩ := (c2.bound n sh1 (hsub _ hm1)).get
    obtain ⟨e2, he2, hn2⟩ := c2.inv.name_ok n j hl
    by_cases hlt2 : j < σ0.nextId
    · -- an old id: `F1` holds the same entry there, so its name is bound to both `j` and `i`
      have he21 : F1.entry j = some e2 := by rw [c1.frame j hlt2, ← c2.frame j hlt2]; exact he2
      have := Option.some.inj ((c1.inj j e2 n he21 hn2).symm.trans (c1.inj i e n he hn))
      omega
    · obtain ⟨sh2, hm2, hs2⟩ := c2.sound j e2 n (Nat.le_of_not_lt hlt2) he2 hn2
      have : sh2 = sh1 := hfun n sh2 sh1 hm2 (hsub _ hm1)
      subst this
      exact ⟨j, e2, he2, hn2, hs2⟩

/-- two states characterised by the same set of denoted definitions over the same base have the same
    named definitions -/
theorem sameDefs_of_runChar {rn : RefKey → Option Str} {E1 E2 : List (Str × Shape)} {σ0 F1 F2 : State}
    (h0 : Inv σ0) (c1 : RunChar rn E1 σ0 F1) (c2 : RunChar rn E2 σ0 F2) (heq : ∀ x, x ∈ E1 ↔ x ∈ E2)
    (hfun : ∀ m sh sh', (m, sh) ∈ E1 → (m, sh') ∈ E1 → sh = sh') : SameDefs F1 F2 := by
  intro n sh
  constructor
  · exact namedDef_transfer h0 c1 c2 (fun x hx => (heq x).mp hx)
      (fun m a b ha hb => hfun m a b ((heq _).mpr ha) ((heq _).mpr hb))
  · exact namedDef_transfer h0 c2 c1 (fun x hx => (heq x).mpr hx) hfun

/-- the name a `$ref` key resolves to: a definition key to its sanitised name, the root to `r` -/
def rnR (r : Option Str) : RefKey → Option Str
  | .defn k => some (sanP k)
  | .root => r

def runBatches (fuel : Nat) : List (List (Str × Sch)) → State → R State
  | [], σ => .ok σ
  | b :: bs, σ =>
    match addRefTypes fuel b σ with
    | .fail e => .fail e
    | .ok σ1 => runBatches fuel bs σ1

/-- every batch of the sequence satisfies the two named hypotheses in the state it is added to -/
def BatchesOK (fuel : Nat) : List (List (Str × Sch)) → State → Prop
  | [], _ => True
  | b :: bs, σ => DistinctBatches (defKeys b) σ ∧ NoNameCollision fuel (defKeys b) ∧
      ∀ σ1, addRefTypes fuel b σ = .ok σ1 → BatchesOK fuel bs σ1

instance instDecBatchesOK (fuel : Nat) : (bs : List (List (Str × Sch))) → (σ : State) →
    Decidable (BatchesOK fuel bs σ)
  | [], _ => isTrue trivial
  | b :: bs, σ =>
    match hs : addRefTypes fuel b σ with
    | .fail f => decidable_of_iff (DistinctBatches (defKeys b) σ ∧ NoNameCollision fuel (defKeys b)) (by
        simp only [BatchesOK, hs]
        exact ⟨fun h => ⟨h.1, h.2, fun _ h' => by cases h'⟩, fun h => ⟨h.1, h.2.1⟩⟩)
    | .ok σ' =>
      have := instDecBatchesOK fuel bs σ'
      decidable_of_iff (DistinctBatches (defKeys b) σ ∧ NoNameCollision fuel (defKeys b) ∧
          BatchesOK fuel bs σ') (by
        simp only [BatchesOK, hs]
        exact ⟨fun h => ⟨h.1, h.2.1, fun σ1 h' => by
            simp only [R.ok.injEq] at h'; rw [← h']; exact h.2.2⟩,
          fun h => ⟨h.1, h.2.1, h.2.2 σ' rfl⟩⟩)

theorem defKeys_compat (r : Option Str) (b : List (Str × Sch)) :
    ∀ d ∈ defKeys b, ∀ nm, defName d = some nm → rnR r d.1 = some nm := by
  intro d hd nm hnm
  unfold defKeys at hd
  obtain ⟨p, _, rfl⟩ := List.mem_map.mp hd
  simpa [defName, keyName, getTypeName, rnR] using hnm

theorem defKeys_append (a b : List (Str × Sch)) : defKeys (a ++ b) = defKeys a ++ defKeys b := by
  unfold defKeys; simp

theorem runChar_append {r : Option Str} {fuel : Nat} : ∀ (bs : List (List (Str × Sch))) (E : List (Str × Shape))
    (σ0 σ F : State), runBatches fuel bs σ = .ok F → BatchesOK fuel bs σ → RunChar (rnR r) E σ0 σ →
    RunChar (rnR r) (E ++ batchExpected (rnR r) fuel (defKeys bs.flatten)) σ0 F := by
  intro bs
  induction bs with
  | nil =>
    intro E σ0 σ F h _ hc
    simp only [runBatches, R.ok.injEq] at h
    subst h
    simpa [defKeys, batchExpected] using hc
  | cons b bs ih =>
    intro E σ0 σ F h hok hc
    simp only [runBatches] at h
    split at h
    · cases h
    · rename_i σ1 h1
      have hc1 := hc.step (fuel := fuel) (defs := defKeys b) h1 hok.1 hok.2.1 (defKeys_compat r b)
      have := ih _ σ0 σ1 F h (hok.2.2 σ1 h1) hc1
      simpa [List.flatten_cons, defKeys_append, batchExpected_append, List.append_assoc] using this

theorem runChar_of_run {r : Option Str} {fuel : Nat} {bs : List (List (Str × Sch))} {σ0 F : State}
    (hi : Inv σ0) (hinj : NameInj σ0) (hr : RefNamed (rnR r) σ0.refToId σ0)
    (h : runBatches fuel bs σ0 = .ok F) (ok : BatchesOK fuel bs σ0) :
    RunChar (rnR r) (batchExpected (rnR r) fuel (defKeys bs.flatten)) σ0 F :=
  runChar_append bs [] σ0 σ0 F h ok (RunChar.init hi hinj hr)

/-- the renaming of ids between two states: an id holding a named entry goes to the id the other
    state binds that name to -/
def namePi (σ τ : State) (i : Nat) : Nat :=
  match (σ.entry i).bind Details.name? with
  | some n => (alookup τ.nameToId n).getD 0
  | none => 0

/-- every named entry of the base state has a structure (all its ids resolve) -/
def Shaped (σ : State) : Prop := ∀ i e n, σ.entry i = some e → e.name? = some n → ∃ sh, ShapeOf σ e sh

theorem shaped_init : Shaped Space.init := by
  intro i e n h; simp [State.entry, Space.init, alookup] at h

theorem runChar_shaped {rn : RefKey → Option Str} {E : List (Str × Shape)} {σ0 F : State} (h0 : Inv σ0)
    (hs : Shaped σ0) (c : RunChar rn E σ0 F) : Shaped F := by
  intro i e n he hn
  by_cases hlt : i < σ0.nextId
  · have he0 : σ0.entry i = some e := by rw [← c.frame i hlt]; exact he
    obtain ⟨sh, hsh⟩ := hs i e n he0 hn
    exact ⟨sh, (hsh.keeps (keeps_of_frame h0 (fun j hj => c.frame j hj))).1⟩
  · obtain ⟨sh, _, hsh⟩ := c.sound i e n (Nat.le_of_not_lt hlt) he hn
    exact ⟨sh, hsh⟩

theorem namePi_eq {σ τ : State} (hiτ : NameInj τ) {i j : Nat} {e e2 : Details} {n : Str}
    (he : σ.entry i = some e) (hn : e.name? = some n) (he2 : τ.entry j = some e2)
    (hn2 : e2.name? = some n) : namePi σ τ i = j := by
  unfold namePi
  rw [he, Option.bind_some, hn]
  dsimp only
  rw [hiτ j e2 n he2 hn2]; rfl

theorem idIso_of_sameDefs {σ τ : State} (hsd : SameDefs σ τ) (hsσ : Shaped σ) (hsτ : Shaped τ)
    (hiτ : NameInj τ) : IdIso (namePi σ τ) σ τ := by
  constructor
  · intro i e he hsome
    obtain ⟨n, hn⟩ := Option.isSome_iff_exists.mp hsome
    obtain ⟨sh, hsh⟩ := hsσ i e n he hn
    obtain ⟨j, e2, he2, hn2, hsh2⟩ := (hsd n sh).mp ⟨i, e, he, hn, hsh⟩
    rw [namePi_eq hiτ he hn he2 hn2]
    exact ⟨e2, he2, by rw [hn, hn2], fun sh' hsh' => by rw [hsh'.unique hsh]; exact hsh2⟩
  · intro j e2 he2 hsome
    obtain ⟨n, hn⟩ := Option.isSome_iff_exists.mp hsome
    obtain ⟨sh, hsh⟩ := hsτ j e2 n he2 hn
    obtain ⟨i, e, he, hn1, _⟩ := (hsd n sh).mpr ⟨j, e2, he2, hn, hsh⟩
    exact ⟨i, e, namePi_eq hiτ he hn1 he2 hn, he, by rw [hn1]; rfl⟩

end TypifyModel.Space
