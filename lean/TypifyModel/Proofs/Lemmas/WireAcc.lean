import TypifyModel.Proofs.Lemmas.WireTy
import TypifyModel.Proofs.Lemmas.ConvAccepts
/-! `acc_sound`: if `accB σa σb ρ A B` then the model of `B`'s `Deserialize` does not reject anything the model of
    `A`'s `Serialize` writes for a well-formed value. -/
namespace TypifyModel.WireEq
open TypifyModel TypifyModel.Serde
open TypifyModel.Conv (NR_ok NR_err mapM'_NR firstOk_NR find_findIdx)

theorem se_option_eq {σ : Space} {t t' : Id} {ed : List String} {im : List Impl}
    (hget : σ.get t = some ⟨.option t', ed, im⟩) (f : Nat) (v : Val) :
    se σ (f + 1) t v =
      (if isOption σ t' then se σ f t' v
       else match v with
         | .none => .ok .null
         | .some a => se σ f t' a
         | _ => .error .reject) := by
  simp only [se, hget]
  exact isOption_match ..

theorem se_opt_none {σ : Space} : ∀ (fs : Nat) (t : Id) (j : Json), isOption σ t = true →
    se σ fs t .none = .ok j → j = .null := by
  intro fs
  induction fs with
  | zero => intro t j _ h; rw [se] at h; cases h
  | succ f ih =>
    intro t j ho h
    obtain ⟨u, ed, im, hget⟩ := isOption_true ho
    rw [se_option_eq hget] at h
    split at h
    · exact ih _ _ (by assumption) h
    · cases h; rfl

theorem transparent_cases {d : Details} {t : Id} (h : transparent d = some t) :
    d = .box t ∨ ∃ n dv, d = .newtype n t .none dv := by
  unfold transparent at h
  split at h <;> cases h
  · exact .inl rfl
  · exact .inr ⟨_, _, rfl⟩

theorem NR_transparent {x : Ext} {σ : Space} {t t' : Id} {d : Details} {ed : List String} {im : List Impl} {j : Json}
    (hget : σ.get t = some ⟨d, ed, im⟩) (ht : transparent d = some t')
    (h : ∀ fd, NR (de x σ fd t' j)) : ∀ fd, NR (de x σ fd t j)
    := by
  rcases transparent_cases ht with rfl | ⟨n, dv, rfl⟩
  · exact Conv.de_box_NR hget h
  · exact Conv.de_alias_NR hget h

theorem tyB_transparent {σ : Space} {t t' : Id} {d : Details} {ed : List String} {im : List Impl}
    (hget : σ.get t = some ⟨d, ed, im⟩) (ht : transparent d = some t') (f : Nat) (v : Val) :
    tyB σ (f + 1) t v = tyB σ f t' v := by
  rcases transparent_cases ht with rfl | ⟨n, dv, rfl⟩ <;> simp only [tyB, hget]

theorem se_transparent {σ : Space} {t t' : Id} {d : Details} {ed : List String} {im : List Impl}
    (hget : σ.get t = some ⟨d, ed, im⟩) (ht : transparent d = some t') (f : Nat) (v : Val) :
    se σ (f + 1) t v = se σ f t' v := by
  rcases transparent_cases ht with rfl | ⟨n, dv, rfl⟩ <;> simp only [se, hget]

theorem optionLike_transparent {σ : Space} {t t' : Id} {d : Details} {ed : List String} {im : List Impl}
    (hget : σ.get t = some ⟨d, ed, im⟩) (ht : transparent d = some t') (n : Nat) :
    optionLike σ (n + 1) t = optionLike σ n t' := by
  rcases transparent_cases ht with rfl | ⟨nm, dv, rfl⟩ <;> simp only [optionLike, hget]

theorem optionLike_isOption {σ : Space} {t : Id} {d : Details} {ed : List String} {im : List Impl}
    (hget : σ.get t = some ⟨d, ed, im⟩) (ht : transparent d = none) {n : Nat} (h : optionLike σ n t = true) :
    ∃ u, d = .option u := by
  cases n with
  | zero => cases h
  | succ n =>
    simp only [optionLike, hget] at h
    split at h
    · rename_i heq; cases heq; exact ⟨_, rfl⟩
    · rename_i heq; cases heq; cases ht
    · rename_i heq; cases heq; cases ht
    · cases h

theorem se_none_null {σ : Space} : ∀ (n : Nat) (t : Id) (fs : Nat) (j : Json), optionLike σ n t = true →
    se σ fs t .none = .ok j → j = .null := by
  intro n
  induction n with
  | zero => intro t fs j h; cases h
  | succ n ih =>
    intro t fs j ho h
    cases fs with
    | zero => rw [se] at h; cases h
    | succ f =>
      cases hget : σ.get t with
      | none => simp only [optionLike, hget] at ho; cases ho
      | some ent =>
        obtain ⟨d, ed, im⟩ := ent
        cases ht : transparent d with
        | some t' =>
          rw [optionLike_transparent hget ht] at ho
          rw [se_transparent hget ht] at h
          exact ih _ _ _ ho h
        | none =>
          obtain ⟨u, rfl⟩ := optionLike_isOption hget ht ho
          exact se_opt_none _ t j (by simp only [isOption, hget]) h

variable (x : Ext) (σa σb : Space) (ρ : List (Id × Id))

theorem accB_succ {fa : Nat} {A B : Id} (h : accB σa σb ρ (fa + 1) A B = true) :
    ∃ da eda ima db edb imb, σa.get A = some ⟨da, eda, ima⟩ ∧ σb.get B = some ⟨db, edb, imb⟩ ∧
      ((∃ A', transparent da = some A' ∧ accB σa σb ρ fa A' B = true) ∨
       (transparent da = none ∧ ∃ B', transparent db = some B' ∧ accB σa σb ρ fa A B' = true) ∨
       (transparent da = none ∧ transparent db = none ∧ accD (accB σa σb ρ fa) σa σb ρ A B da db = true)) := by
  simp only [accB] at h
  split at h
  · rename_i ea eb hga hgb
    obtain ⟨da, eda, ima⟩ := ea
    obtain ⟨db, edb, imb⟩ := eb
    refine ⟨da, eda, ima, db, edb, imb, hga, hgb, ?_⟩
    dsimp only at h
    split at h
    · exact .inl ⟨_, by assumption, h⟩
    · split at h
      · exact .inr (.inl ⟨by assumption, _, by assumption, h⟩)
      · exact .inr (.inr ⟨by assumption, by assumption, h⟩)
  · cases h

theorem acc_null : ∀ (fa : Nat) (A B : Id), accB σa σb ρ fa A B = true → ∀ n, optionLike σa n A = true →
    ∀ fd, NR (de x σb fd B .null) := by
  intro fa
  induction fa with
  | zero => intro A B h; cases h
  | succ fa ih =>
    intro A B h n ho
    obtain ⟨da, eda, ima, db, edb, imb, hga, hgb, h⟩ := accB_succ σa σb ρ h
    rcases h with ⟨A', hta, h⟩ | ⟨hta, B', htb, h⟩ | ⟨hta, htb, h⟩
    · cases n with
      | zero => cases ho
      | succ n => exact ih _ _ h n (optionLike_transparent hga hta n ▸ ho)
    · exact NR_transparent hgb htb (ih _ _ h n ho)
    · obtain ⟨u, rfl⟩ := optionLike_isOption hga hta ho
      cases db <;> try cases h
      intro fd
      cases fd with
      | zero => exact Conv.NR_de_zero
      | succ f => rw [de_option_eq x hgb]; exact NR_ok

/-- every pair of the correspondence is consistent, unfolded one level -/
def AllAcc : Prop := ∀ A B, inRho ρ A B = true → ∃ f, namedAcc σa σb ρ f A B = true

theorem allAccB_AllAcc {f : Nat} (h : allAccB σa σb ρ f = true) : AllAcc σa σb ρ := by
  intro A B hin
  simp only [inRho, List.any_eq_true, Bool.and_eq_true, beq_iff_eq] at hin
  obtain ⟨pr, hpr, h1, h2⟩ := hin
  have := List.all_eq_true.mp h pr hpr
  rw [h1, h2] at this
  exact ⟨f, this⟩

/-- what the induction provides for component types (`rec` = `accB σa σb ρ fa`, `ty` = `tyB σa ft`) -/
structure Hyp (rec : Id → Id → Bool) (ty : Id → Val → Bool) : Prop where
  val : ∀ a b v fs j, rec a b = true → ty a v = true → se σa fs a v = .ok j → ∀ fd, NR (de x σb fd b j)
  null : ∀ a b, rec a b = true → optionLikeT σa a = true → ∀ fd, NR (de x σb fd b .null)

theorem Hyp.orNone {rec : Id → Id → Bool} {ty : Id → Val → Bool} (H : Hyp x σa σb rec ty)
    {a b : Id} {v : Val} {fs : Nat} {j : Json} (hr : rec a b = true) (ht : tyOrNone σa ty a v = true)
    (hs : se σa fs a v = .ok j) : ∀ fd, NR (de x σb fd b j) := by
  simp only [tyOrNone, Bool.or_eq_true, Bool.and_eq_true] at ht
  rcases ht with ht | ⟨hn, ho⟩
  · exact H.val a b v fs j hr ht hs
  · cases v <;> cases hn
    cases se_none_null _ a fs j ho hs
    exact H.null a b hr ho

theorem zipSe_ok_cons {g : Id → Val → Except E Json} {t : Id} {ts : List Id} {v : Val} {vs : List Val} {js : List Json}
    (h : zipSe g (t :: ts) (v :: vs) = .ok js) : ∃ j js', g t v = .ok j ∧ zipSe g ts vs = .ok js' ∧ js = j :: js' := by
  simp only [zipSe] at h
  split at h
  · cases h
  · split at h <;> cases h
    exact ⟨_, _, by assumption, by assumption, rfl⟩

theorem tuple_NR {rec : Id → Id → Bool} {ty : Id → Val → Bool} (H : Hyp x σa σb rec ty) (fs fd : Nat) :
    ∀ {as bs : List Id} {vs : List Val} {js : List Json}, zipB rec as bs = true → zipTy ty as vs = true →
      zipSe (se σa fs) as vs = .ok js → NR (zipM (de x σb fd) bs js)
  | [], [], [], _, _, _, hs => by cases hs; exact NR_ok
  | a :: as, b :: bs, v :: vs, _, hb, ht, hs => by
    simp only [zipB, zipTy, Bool.and_eq_true] at hb ht
    obtain ⟨j, js', h1, h2, rfl⟩ := zipSe_ok_cons hs
    exact zipM_cons_NR (H.val a b v fs j hb.1 ht.1 h1 fd) (tuple_NR H fs fd hb.2 ht.2 h2)

theorem seq_NR {rec : Id → Id → Bool} {ty : Id → Val → Bool} (H : Hyp x σa σb rec ty) {a b : Id} (hr : rec a b = true)
    {vs : List Val} (ht : vs.all (ty a) = true) {fs : Nat} {js : List Json}
    (hs : mapM' (se σa fs a) vs = .ok js) (fd : Nat) : NR (mapM' (de x σb fd b) js) :=
  mapM'_NR fun j hj =>
    have ⟨v, hv, hsv⟩ := mapM'_ok_mem hs j hj
    H.val a b v fs j hr (List.all_eq_true.mp ht v hv) hsv fd

theorem skipped_maySkip {σ : Space} {p : Field} {v : Val} (h : skipped σ p v = true) : maySkip σ p = true := by
  unfold skipped at h
  unfold maySkip
  split at h
  · split at h <;> first | cases h | simp only [*]
  · cases h

theorem seFieldsR_cons {σ : Space} {S : Id → Val → Except E Json} {p : Field} {ps : List Field} {n : String} {v : Val}
    {fs : List (String × Val)} {es : List (String × Json)} (hfl : hasFlatten (p :: ps) = false)
    (hs : seFieldsR S σ (p :: ps) ((n, v) :: fs) = .ok es) :
    hasFlatten ps = false ∧ ∃ rest, seFieldsR S σ ps fs = .ok rest ∧
      ((skipped σ p v = true ∧ es = rest) ∨ (skipped σ p v = false ∧ ∃ j, S p.ty v = .ok j ∧ es = (p.wire, j) :: rest)) := by
  obtain ⟨hpf, hrf⟩ := hasFlatten_cons hfl
  simp only [seFieldsR, hpf, Bool.false_eq_true, if_false] at hs
  refine ⟨hrf, ?_⟩
  split at hs
  · cases hs
  · refine ⟨_, by assumption, ?_⟩
    split at hs
    · cases hs; exact .inl ⟨by assumption, rfl⟩
    · split at hs <;> cases hs
      exact .inr ⟨Bool.eq_false_iff.mpr (by assumption), _, by assumption, rfl⟩

theorem seFields_mem {σ : Space} {ty : Id → Val → Bool} {S : Id → Val → Except E Json} :
    ∀ {pa : List Field} {fs : List (String × Val)} {es : List (String × Json)}, hasFlatten pa = false →
      fieldsTy σ ty pa fs = true → seFieldsR S σ pa fs = .ok es →
      ∀ kj ∈ es, ∃ p v, p ∈ pa ∧ tyOrNone σ ty p.ty v = true ∧ p.wire = kj.1 ∧ S p.ty v = .ok kj.2
  | [], [], _, _, _, hs, kj, hkj => by cases hs; cases hkj
  | p :: ps, (n, v) :: fs, es, hfl, ht, hs, kj, hkj => by
    simp only [fieldsTy, Bool.and_eq_true] at ht
    obtain ⟨hrf, rest, hr, ⟨_, rfl⟩ | ⟨_, j, hse, rfl⟩⟩ := seFieldsR_cons hfl hs
    all_goals
      have ih := fun hkj => (seFields_mem hrf ht.2 hr kj hkj).imp fun p' h => h.imp fun v' h =>
        (⟨List.mem_cons_of_mem p h.1, h.2⟩ : p' ∈ p :: ps ∧ _)
    · exact ih hkj
    · rcases List.mem_cons.mp hkj with rfl | hkj
      · exact ⟨p, v, List.mem_cons_self, ht.1, rfl, hse⟩
      · exact ih hkj

theorem seFields_written {σ : Space} {S : Id → Val → Except E Json} :
    ∀ {pa : List Field} {fs : List (String × Val)} {es : List (String × Json)}, hasFlatten pa = false →
      seFieldsR S σ pa fs = .ok es → ∀ p ∈ pa, maySkip σ p = false → ∃ j, (p.wire, j) ∈ es
  | [], _, _, _, _, p, hp, _ => by cases hp
  | q :: ps, [], _, _, hs, _, _, _ => by cases hs
  | q :: ps, (n, v) :: fs, es, hfl, hs, p, hp, hms => by
    obtain ⟨hrf, rest, hr, ⟨hsk, rfl⟩ | ⟨_, j, _, rfl⟩⟩ := seFieldsR_cons hfl hs
    all_goals rcases List.mem_cons.mp hp with rfl | hp
    · exact absurd (skipped_maySkip hsk) (by simp only [hms, Bool.false_eq_true, not_false_eq_true])
    · exact seFields_written hrf hr p hp hms
    · exact ⟨j, List.mem_cons_self⟩
    · exact (seFields_written hrf hr p hp hms).imp fun j' h => List.mem_cons_of_mem _ h

theorem find_some_mem {α : Type} {p : α → Bool} {l : List α} {a : α} (h : l.find? p = some a) : a ∈ l ∧ p a = true :=
  ⟨List.mem_of_find?_eq_some h, List.find?_some h⟩

theorem NR_match_ok {α β : Type} {r : Except E α} {g : α → β} (h : NR r) :
    NR (match r with | .ok a => (.ok (g a) : Except E β) | .error e => .error e) := by
  cases r with
  | ok a => exact NR_ok
  | error e => exact NR_err h rfl

/-- `nr_of h` closes `NR (match r with | .ok a => .ok (g a) | .error e => .error e)` from `h : NR r`: `NR_match_ok`, for
    the copies of this `match` compiled for `de` and its companions, to which that lemma does not apply -/
macro "nr_of " h:term : tactic =>
  `(tactic| (split <;> first | exact NR_ok | exact NR_err $h (by assumption)))

theorem struct_NR {rec : Id → Id → Bool} {ty : Id → Val → Bool} (H : Hyp x σa σb rec ty)
    {pa pb : List Field} (hacc : fieldsAcc rec σa σb pa pb = true)
    {fs : List (String × Val)} {es : List (String × Json)} (hty : fieldsTy σa ty pa fs = true)
    {f : Nat} (hse : seFieldsR (se σa f) σa pa fs = .ok es) (deny : Bool) :
    ∀ fd, NR (deStruct x σb fd pb deny (.obj es))
  | 0 => by rw [deStruct]; nofun
  | fd + 1 => by
    simp only [fieldsAcc, Bool.and_eq_true, Bool.not_eq_true'] at hacc
    obtain ⟨⟨⟨⟨⟨hfa, hfb⟩, hna⟩, hnb⟩, hall⟩, hreq⟩ := hacc
    have hread : ∀ kv ∈ es, ∃ (p : Field) (v : Val) (q : Field), tyOrNone σa ty p.ty v = true ∧ se σa f p.ty v = .ok kv.2 ∧
        pb.find? (fun q => q.wire == kv.1) = some q ∧ rec p.ty q.ty = true := by
      intro kv hkv
      obtain ⟨p, v, hp, hpt, hw, hsv⟩ := seFields_mem hfa hty hse kv hkv
      have := List.all_eq_true.mp hall p hp
      rw [hw] at this
      split at this
      · exact ⟨p, v, _, hpt, hsv, by assumption, this⟩
      · cases this
    have hknown : (es.any fun kv => !(pb.any fun p => p.wire == kv.1)) = false :=
      Bool.eq_false_iff.mpr fun hc => by
        obtain ⟨kv, hkv, hnot⟩ := List.any_eq_true.mp hc
        obtain ⟨_, _, q, _, _, hq, _⟩ := hread kv hkv
        have : (pb.any fun p => p.wire == kv.1) = true := List.any_eq_true.mpr ⟨q, find_some_mem hq⟩
        rw [this] at hnot
        cases hnot
    simp only [deStruct, hfb, hknown, Bool.and_false, Bool.false_eq_true, if_false]
    split
    · exact NR_ok
    refine NR_err (mapM'_NR fun q hq => ?_) (by assumption)
    split
    · rename_i jq hl
      obtain ⟨p, v, q', hpt, hsv, hq', hrec⟩ := hread _ (Json.lookup_mem hl)
      cases (nodupB_find_gen (·.wire) hnb q hq).symm.trans hq'
      nr_of H.orNone x σa σb hrec hpt hsv fd
    · rename_i hl
      split
      · -- required and absent
        have hq' := List.all_eq_true.mp hreq q hq
        simp only [Bool.or_eq_true, toleratesMissing, *] at hq'
        rcases hq' with hq' | hq'
        · rw [if_pos hq']; exact NR_ok
        · split at hq'
          · rename_i p hfp
            obtain ⟨hpm, hpw⟩ := find_some_mem hfp
            obtain ⟨j, hj⟩ := seFields_written hfa hse p hpm ((Bool.not_eq_true' _).mp hq')
            exact absurd hl (Json.mem_lookup_ne_none (eq_of_beq hpw ▸ hj))
          · cases hq'
      · nr_of Conv.dflt_ne_reject x σb fd q.ty
      · split
        · exact NR_ok
        · nofun
        · intro hc; cases hc; contradiction

theorem seStruct_ok {σ : Space} {f : Nat} {ps : List Field} {fs : List (String × Val)} {es : List (String × Json)}
    (h : seStruct σ f ps fs = .ok es) : ∃ f', seFieldsR (se σ f') σ ps fs = .ok es := by
  cases f with
  | zero => rw [seStruct] at h; cases h
  | succ f => exact ⟨f, by rwa [seStruct] at h⟩

theorem vb_NR {rec : Id → Id → Bool} {ft : Nat} (H : Hyp x σa σb rec (tyB σa ft))
    {da db : VDetails} (hacc : vdAcc rec σa σb da db = true) {p : Val} (hty : variantTy σa (tyB σa ft) da p = true)
    {fs : Nat} {b : Json} (hse : seVariantBody σa fs da p = .ok b) (deny so : Bool) :
    ∀ fd, NR (deVariantBody x σb fd db deny so b)
  | 0 => by rw [deVariantBody]; nofun
  | fd + 1 => by
    cases fs with
    | zero => rw [seVariantBody] at hse; cases hse
    | succ fs =>
    unfold seVariantBody at hse
    unfold variantTy at hty
    unfold deVariantBody
    unfold vdAcc at hacc
    split at hacc <;> simp only at hty hse ⊢
    · split at hse <;> cases hse; exact NR_ok
    · exact H.orNone x σa σb hacc hty hse fd
    · split at hse
      · split at hse <;> cases hse
        simp only
        nr_of tuple_NR x σa σb H fs fd hacc hty (by assumption)
      · cases hse
    · split at hse
      · split at hse <;> cases hse
        obtain ⟨f', hz⟩ := seStruct_ok (by assumption)
        have := struct_NR x σa σb H hacc hty hz deny fd
        cases so <;> exact this
      · cases hse
    · -- `V((A, B))` written, `V(A, B)` reads
      split at hacc
      · rename_i a _ _ as eda ima hga
        have hty' : tyB σa ft a p = true := by
          simp only [tyOrNone, Bool.or_eq_true, Bool.and_eq_true] at hty
          rcases hty with hty | ⟨_, ho⟩
          · exact hty
          · simp only [optionLikeT, optionLike, hga] at ho; cases ho
        cases ft with
        | zero => cases hty'
        | succ ft =>
        cases fs with
        | zero => rw [se] at hse; cases hse
        | succ fs =>
        unfold tyB at hty'
        unfold se at hse
        simp only [hga] at hty' hse
        split at hse
        · split at hse <;> cases hse
          simp only
          nr_of tuple_NR x σa σb H fs fd hacc (zipTy_imp (tyB_mono σa ft) hty') (by assumption)
        · cases hse
      · cases hacc
    · -- the other way round
      split at hacc
      · rename_i hgb
        split at hse
        · split at hse <;> cases hse
          cases fd with
          | zero => exact Conv.NR_de_zero
          | succ fd =>
            simp only [de, hgb]
            nr_of tuple_NR x σa σb H fs fd hacc hty (by assumption)
        · cases hse
      · cases hacc
    · cases hacc

theorem variantAcc_spec {rec : Id → Id → Bool} {vb : List Variant} {v : Variant}
    (h : variantAcc rec σa σb vb v = true) :
    ∃ w k, vb.findIdx? (fun w => w.wire == v.wire) = some k ∧ vb[k]? = some w ∧ vdAcc rec σa σb v.details w.details = true := by
  unfold variantAcc at h
  split at h
  · rename_i w hw
    obtain ⟨k, hk, hg⟩ := find_findIdx hw
    exact ⟨w, k, hk, hg, h⟩
  · cases h

theorem vdAcc_simple_iff {rec : Id → Id → Bool} {da db : VDetails} (h : vdAcc rec σa σb da db = true) :
    da = .simple ↔ db = .simple := by
  unfold vdAcc at h
  split at h <;> first | simp only [reduceCtorEq, iff_self] | cases h

theorem variant_simple_right {rec : Id → Id → Bool} {v w : Variant} (hd : v.details = .simple)
    (h : vdAcc rec σa σb v.details w.details = true) : ∃ r i, w = ⟨r, i, .simple⟩ :=
  ⟨w.rawName, w.identName, congrArg (Variant.mk _ _) ((vdAcc_simple_iff σa σb h).mp hd)⟩

theorem enum_NR {rec : Id → Id → Bool} {ft : Nat} (H : Hyp x σa σb rec (tyB σa ft))
    {A B : Id} {na nb : String} {ta tb : Tag} {va vb : List Variant} {dna dnb : Bool} {dfa dfb : Option Json}
    {ba bb : List Bespoke} {eda edb : List String} {ima imb : List Impl}
    (hga : σa.get A = some ⟨.enum na ta va dna dfa ba, eda, ima⟩)
    (hgb : σb.get B = some ⟨.enum nb tb vb dnb dfb bb, edb, imb⟩)
    (hacc : enumAcc rec σa σb ta tb va vb = true)
    {v : Val} (hty : tyB σa (ft + 1) A v = true) {fs : Nat} {j : Json} (hse : se σa fs A v = .ok j) :
    ∀ fd, NR (de x σb fd B j)
  | 0 => Conv.NR_de_zero
  | fd + 1 => by
    cases fs with
    | zero => rw [se] at hse; cases hse
    | succ fs =>
    unfold tyB at hty
    unfold se at hse
    unfold de
    simp only [hga] at hty hse
    simp only [hgb]
    split at hse
    rotate_left
    · cases hse   -- not a variant value
    rename_i i p
    split at hse
    · cases hse
    rename_i vr hvi
    simp only [hvi] at hty
    have hmem : vr ∈ va := List.mem_of_getElem? hvi
    simp only [enumAcc, Bool.and_eq_true] at hacc
    obtain ⟨htag, hper⟩ := hacc
    cases eq_of_beq htag
    cases ta <;> simp only at hper hse ⊢
    case external =>
      obtain ⟨w, k, hk, hwk, hvd⟩ := variantAcc_spec σa σb (List.all_eq_true.mp hper vr hmem)
      split at hse
      · cases hse
        obtain ⟨wr, wi, rfl⟩ := variant_simple_right σa σb (by assumption) hvd
        simp only [hk, hwk]
        exact NR_ok
      · split at hse <;> cases hse
        simp only [List.all_nil, Bool.not_true, Bool.false_eq_true, if_false, hk, hwk]
        nr_of vb_NR x σa σb H hvd hty (by assumption) dnb true fd
    case untagged =>
      -- the search stops at the variant's own position
      simp only [Bool.and_eq_true, decide_eq_true_eq] at hper
      have hi : i < va.length := (List.getElem?_eq_some_iff.mp hvi).1
      have hwk : vb[i]? = some vb[i] := List.getElem?_eq_getElem (hper.1 ▸ hi)
      have hz : (va.zip vb)[i]? = some (vr, vb[i]) := List.getElem?_zip_eq_some.mpr ⟨hvi, hwk⟩
      have hvd := List.all_eq_true.mp hper.2 _ (List.mem_of_getElem? hz)
      apply firstOk_NR (n := i) hwk
      nr_of vb_NR x σa σb H hvd hty hse dnb false fd
    case internal tg =>
      have hv := List.all_eq_true.mp hper vr hmem
      simp only [Bool.and_eq_true, internalOk] at hv
      obtain ⟨hok, hv⟩ := hv
      obtain ⟨w, k, hk, hwk, hvd⟩ := variantAcc_spec σa σb hv
      split at hse
      · cases hse
        obtain ⟨wr, wi, rfl⟩ := variant_simple_right σa σb (by assumption) hvd
        simp only [Json.lookup, if_true, hk, hwk]
        exact NR_ok
      · cases hse
      · rename_i ps vfs hd
        simp only [hd] at hok hvd
        rw [hd] at hty
        split at hse <;> cases hse
        obtain ⟨f', hz⟩ := seStruct_ok (by assumption)
        obtain ⟨wr, wi, wd⟩ := w
        cases wd <;> try cases hvd
        simp only [vdAcc] at hvd
        -- the tag is not a member name: erasing it gives back the members
        have hfa : hasFlatten ps = false := by
          simp only [fieldsAcc, Bool.and_eq_true, Bool.not_eq_true'] at hvd
          exact hvd.1.1.1.1.1
        have her : Json.erase ((tg, Json.str vr.wire) :: _) tg = _ :=
          (List.filter_cons_of_neg (by simp only [ne_eq, not_true_eq_false, decide_false, Bool.false_eq_true,
            not_false_eq_true])).trans (Json.erase_id fun kv hkv heq => by
            obtain ⟨p', v', hp', _, hw', _⟩ := seFields_mem hfa hty hz kv hkv
            have : (ps.any fun p => p.wire == tg) = true :=
              List.any_eq_true.mpr ⟨p', hp', by rw [hw', heq]; exact beq_self_eq_true _⟩
            rw [this] at hok
            cases hok)
        simp only [Json.lookup, if_true, hk, hwk, her]
        nr_of struct_NR x σa σb H hvd hty hz dnb fd
      · cases hse
      · rename_i hd
        rw [hd] at hok
        cases hok
    case adjacent tg ct =>
      simp only [Bool.and_eq_true, bne_iff_ne, ne_eq] at hper
      obtain ⟨hne, hper⟩ := hper
      obtain ⟨w, k, hk, hwk, hvd⟩ := variantAcc_spec σa σb (List.all_eq_true.mp hper vr hmem)
      split at hse
      · cases hse
        obtain ⟨wr, wi, rfl⟩ := variant_simple_right σa σb (by assumption) hvd
        simp only [List.any_cons, List.any_nil, ne_eq, not_true_eq_false, decide_false, Bool.false_and, Bool.or_self,
          Bool.and_false, Bool.false_eq_true, if_false, Json.lookup, if_true, hk, hwk, hne]
        exact NR_ok
      · rename_i hns
        split at hse <;> cases hse
        obtain ⟨wr, wi, wd⟩ := w
        have hws : wd ≠ .simple := fun hs => hns ((vdAcc_simple_iff σa σb hvd).mpr hs)
        simp only [List.any_cons, List.any_nil, ne_eq, not_true_eq_false, decide_false, Bool.false_and, Bool.and_false,
          Bool.or_self, Bool.false_eq_true, if_false, Json.lookup, if_true, hk, hwk, hne]
        cases wd with
        | simple => exact absurd rfl hws
        | _ =>
          simp only
          nr_of vb_NR x σa σb H hvd hty (by assumption) dnb false fd

theorem de_string_key {σ : Space} {k : Id} (hk : isString σ k = true) (fd : Nat) (s : String) :
    de x σ fd k (.str s) = .ok (.str s) ∨ de x σ fd k (.str s) = .error .fuel := by
  cases fd with
  | zero => exact .inr (by rw [de])
  | succ fd =>
    unfold isString at hk
    split at hk
    · exact .inl (by simp only [de, *])
    · cases hk

/-- induction on the fuel typing the value, then on that of `accB` -/
theorem accB_sound (hall : AllAcc σa σb ρ) : ∀ ft fa A B v fs j, accB σa σb ρ fa A B = true → tyB σa ft A v = true →
    se σa fs A v = .ok j → ∀ fd, NR (de x σb fd B j) := by
  intro ft
  induction ft with
  | zero => intro fa A B v fs j _ hty; cases hty
  | succ ft ih =>
    have H : ∀ fa, Hyp x σa σb (accB σa σb ρ fa) (tyB σa ft) := fun fa =>
      ⟨ih fa, fun a b hr ho => acc_null x σa σb ρ fa a b hr _ ho⟩
    intro fa
    induction fa with
    | zero => intro A B v fs j h; cases h
    | succ fa iha =>
      intro A B v fs j hacc hty0 hse0
      obtain ⟨da, eda, ima, db, edb, imb, hga, hgb, h⟩ := accB_succ σa σb ρ hacc
      cases fs with
      | zero => rw [se] at hse0; cases hse0
      | succ fs =>
      rcases h with ⟨A', hta, h⟩ | ⟨hta, B', htb, h⟩ | ⟨-, -, h⟩
      · exact ih fa A' B v fs j h (tyB_transparent hga hta ft v ▸ hty0) (se_transparent hga hta fs v ▸ hse0)
      · exact NR_transparent hgb htb (iha A B' v (fs + 1) j h hty0 hse0)
      intro fd
      cases fd with
      | zero => exact Conv.NR_de_zero
      | succ fd =>
      have hty := hty0
      have hse := hse0
      unfold tyB at hty; unfold se at hse; unfold de
      unfold accD at h
      split at h
      rotate_right
      · cases h   -- constructs that are not paired
      -- rewriting with `hga`, `hgb` only now, when the `match` reduces
      all_goals simp only [hga] at hty hse; simp only [hgb]
      · split at hse <;> cases hse; exact NR_ok
      · split at hse <;> cases hse; exact NR_ok
      · -- integer
        split at h
        · rename_i ta tb hra hrb
          split at hse <;> cases hse
          simp only [hra, Bool.and_eq_true, decide_eq_true_eq] at h hty
          simp only [hrb]
          rw [if_pos (by omega)]; exact NR_ok
        · cases h
      · split at hse <;> cases hse; exact NR_ok
      · split at hse <;> cases hse; exact NR_ok
      · exact NR_ok
      · -- option
        simp only [Bool.and_eq_true, Bool.not_eq_true'] at h
        obtain ⟨⟨hoa, hob⟩, hrec⟩ := h
        split at hse
        · exact absurd (by assumption) (isOption_false hoa _ _ _)
        split at hse
        · cases hse; exact NR_ok
        · simp only [isNoneV, hoa, Bool.false_or, Bool.false_eq_true, if_false] at hty
          split
          · exact NR_ok
          split
          · exact absurd (by assumption) (isOption_false hob _ _ _)
          · nr_of (H fa).val _ _ _ fs j hrec hty hse fd
        · cases hse
      -- vec and set, four pairings
      iterate 4
        · split at hse
          · split at hse <;> cases hse
            simp only
            nr_of seq_NR x σa σb (H fa) h hty (by assumption) fd
          · cases hse
      · -- fixed array
        simp only [Bool.and_eq_true, decide_eq_true_eq] at h
        split at hse
        · split at hse <;> cases hse
          rename_i hm
          simp only [Bool.and_eq_true, decide_eq_true_eq] at hty
          simp only
          rw [if_pos ((mapM'_length hm).trans (hty.1.trans h.1))]
          nr_of seq_NR x σa σb (H fa) h.2 hty.2 hm fd
        · cases hse
      · -- tuple
        split at hse
        · split at hse <;> cases hse
          simp only
          nr_of tuple_NR x σa σb (H fa) fs fd h hty (by assumption)
        · cases hse
      · -- map
        rename_i ka va kb vb
        simp only [Bool.and_eq_true] at h
        obtain ⟨⟨_, hkb⟩, hrec⟩ := h
        split at hse
        · split at hse <;> cases hse
          rename_i hm
          simp only
          split
          · exact NR_ok
          refine NR_err (mapM'_NR fun e he => ?_) (by assumption)
          obtain ⟨kv, hkv, hg⟩ := mapM'_ok_mem hm e he
          split at hg <;> cases hg
          rename_i jv hsv
          have hv := (H fa).val va vb kv.2 fs jv hrec (List.all_eq_true.mp hty kv hkv) hsv fd
          rcases de_string_key x hkb fd kv.1 with hkey | hkey
          · cases hd : de x σb fd vb jv with
            | ok b => simp only [hkey]; exact NR_ok
            | error e => simp only [hkey]; exact NR_err hv hd
          · simp only [hkey]; nofun
        · cases hse
      · -- struct
        obtain ⟨f', hnamed⟩ := hall A B h
        simp only [namedAcc, hga, hgb] at hnamed
        split at hse
        · split at hse <;> cases hse
          obtain ⟨fs', hz⟩ := seStruct_ok (by assumption)
          exact struct_NR x σa σb (H f') hnamed hty hz _ fd
        · cases hse
      · -- enum
        obtain ⟨f', hnamed⟩ := hall A B h
        simp only [namedAcc, hga, hgb] at hnamed
        have := enum_NR x σa σb (H f') hga hgb hnamed hty0 hse0 (fd + 1)
        unfold de at this
        simp only [hgb] at this
        exact this

/-- **soundness of `accB`**: `B` does not reject what `A` writes for a well-formed value -/
theorem acc_sound (x : Ext) (σa σb : Space) (ρ : List (Id × Id)) (hall : AllAcc σa σb ρ)
    {fa : Nat} {A B : Id} (hacc : accB σa σb ρ fa A B = true)
    {ft : Nat} {v : Val} (hty : tyB σa ft A v = true) {fs : Nat} {j : Json} (hse : se σa fs A v = .ok j) :
    ∀ fd, NR (de x σb fd B j) :=
  accB_sound x σa σb ρ hall ft fa A B v fs j hacc hty hse

end TypifyModel.WireEq
