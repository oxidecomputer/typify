import TypifyModel.Proofs.Lemmas.MergeDist
/-! C09: `merge_schema_object`, the `$ref` arm, `try_merge_schema` and `try_merge_all`. -/
namespace TypifyModel.Merge
open TypifyModel TypifyModel.Validate

variable {x : Ext} {d : Doc}

theorem withSub_spec {rec : Schema → Schema → MR} (hrec : RecOK x d rec) (fr : Nat) (so sub : Schema)
    (hsub : isSub sub = true) : Spec x d (withSub rec d fr so sub) so sub := by
  cases sub <;> first | cases hsub | skip
  · exact dist_spec hrec fr so _ true
  · exact dist_spec hrec fr so _ false
  · exact foldMerge_spec hrec _ so
  · exact mergeNot_spec hrec so _

theorem mergeBody_any_left (te : Bool) (rec : Schema → Schema → MR) (b : Schema) : mergeBody te rec .any b = .ok b [] := rfl

theorem mergeBody_any_right (te : Bool) (rec : Schema → Schema → MR) (a : Schema) : mergeBody te rec a .any = .ok a [] := by
  unfold mergeBody
  split
  · rw [isAny_eq (s := a) ‹_›]
  · rfl

/-- `Inter m .any a`: `m` has the verdicts of `a` -/
theorem Spec.of_left {r : MR} {m a b : Schema} (hm : Inter x d m .any a) (hs : Spec x d r m b) : Spec x d r a b :=
  (Spec_transfer (fun v f bb hv => hm v 1 f true bb rfl hv) hs.symm).symm

theorem mergeObj_spec (te : Bool) {rec : Schema → Schema → MR} (hrec : RecOK x d rec) (fr : Nat) (a b : Schema) :
    Spec x d (mergeObj te rec d fr a b) a b := by
  unfold mergeObj bodyOf
  cases ha : isSub a <;> cases hb : isSub b <;> simp only [Bool.false_eq_true, if_false, if_true]
  · have hs := mergeBody_spec te hrec a b
    simp only [MR.addGaps, List.append_nil]
    generalize mergeBody te rec a b = r at hs ⊢
    cases r <;> exact hs
  · rw [mergeBody_any_right]
    exact spec_addGaps fun _ => withSub_spec hrec fr a b hb
  · rw [mergeBody_any_left]
    have hs := (withSub_spec hrec fr b a ha).symm
    simp only [MR.addGaps, List.nil_append, List.append_nil]
    generalize withSub rec d fr b a = r at hs ⊢
    cases r <;> exact hs
  · -- both: `a` is merged into `{}`, then `b` into the result
    rw [mergeBody_any_left]
    simp only
    have hs1 := withSub_spec hrec fr .any a ha
    generalize withSub rec d fr .any a = r at hs1 ⊢
    cases r with
    | unsup => trivial
    | never g =>
      refine .of_never fun hg v f2 f3 hh => ?_
      cases hg
      exact hs1 v 1 f2 ⟨rfl, hh.1⟩
    | ok m1 g1 =>
      refine spec_addGaps fun hg => ?_
      cases hg
      exact .of_left hs1 (withSub_spec hrec fr m1 b hb)

theorem ref_verdict {k : String} {r : Schema} (hk : d.get k = some r) {f : Nat} {v : Json} {b : Bool}
    (h : valid x d f (.ref k) v = some b) : ∃ f', f = f' + 1 ∧ valid x d f' r v = some b := by
  obtain ⟨f', rfl⟩ := ne_zero_of_valid h
  rw [valid_ref, hk] at h
  exact ⟨f', rfl, h⟩

theorem refArm_spec {rec : Schema → Schema → MR} (hrec : RecOK x d rec) (fr : Nat) (k : String) (other : Schema) :
    Spec x d (refArm rec d fr k other) (.ref k) other := by
  unfold refArm
  cases hk : d.get k with
  | none => trivial
  | some r =>
    have hI : Inter x d r .any (.ref k) := fun v _ f3 _ bb h2 h3 => by
      obtain ⟨f', _, hf'⟩ := ref_verdict hk h3
      exact ⟨f', by rw [valid_any_true h2]; exact hf'⟩
    have hs : Spec x d (rec r other) (.ref k) other := .of_left hI (hrec r other)
    simp only
    generalize rec r other = r0 at hs ⊢
    cases r0 with
    | unsup => trivial
    | never g => exact hs
    | ok m g =>
      simp only
      split
      · refine .of_ok fun hgg => ?_
        obtain ⟨rfl, hrg⟩ := List.append_eq_nil_iff.mp hgg
        -- roughly the target: the reference is kept
        intro v f2 f3 ba bb h2 h3
        obtain ⟨f', rfl, hf'⟩ := ref_verdict hk h2
        obtain ⟨f1, hf1⟩ := hs v _ f3 ba bb h2 h3
        rw [roughGap_nil hrg f1 v] at hf1
        exact ⟨f' + 1, valid_det x d hf' hf1 ▸ h2⟩
      · exact hs

/-- the model's answer, when gap-free, is the intersection / witnesses disjointness -/
theorem tryMerge_spec (te : Bool) : ∀ (f : Nat) (a b : Schema), Spec x d (tryMerge te d f a b) a b
  | 0, _, _ => trivial
  | f + 1, a, b => by
    have hrec : RecOK x d (tryMerge te d f) := tryMerge_spec te f
    unfold tryMerge
    split
    · rename_i hn
      rcases Bool.or_eq_true_iff.mp hn with hn | hn
      · exact isNever_eq hn ▸ Disj_never_left b
      · exact (isNever_eq hn ▸ Disj_never_left a).symm
    · split
      · split
        · split
          · rename_i he
            rw [beq_iff_eq.mp he]
            exact Inter_self _
          · exact refArm_spec hrec f _ _
        · exact refArm_spec hrec f _ b
      · split
        · exact (refArm_spec hrec f _ a).symm
        · exact mergeObj_spec te hrec f a b

end TypifyModel.Merge
