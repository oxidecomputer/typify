import TypifyModel.Model.SettingsApply
import TypifyModel.Proofs.Lemmas.RenderLemmas
import TypifyModel.Proofs.Lemmas.SerdeBasics
/-! The token form of `type_ident` and what it can mention; items of `render` against the entries; impl headers and
    member attributes of an item where the statement needs `ExprOf` / `isStrAny`. -/
namespace TypifyModel.SettingsApply
open TypifyModel TypifyModel.Render

theorem isStrAny_of_get {σ : Space} {k v : Id} {a c : List String} {b d : List Impl}
    (h1 : σ.get k = some ⟨.string, a, b⟩) (h2 : σ.get v = some ⟨.jsonValue, c, d⟩) : isStrAny σ k v = true := by
  unfold isStrAny; rw [h1, h2]

theorem isStrAny_of_not {σ : Space} {k v : Id}
    (h : ∀ a b c d, σ.get k = some ⟨.string, a, b⟩ → σ.get v = some ⟨.jsonValue, c, d⟩ → False) :
    isStrAny σ k v = false := by
  unfold isStrAny
  split
  · rename_i h1 h2; exact (h _ _ _ _ h1 h2).elim
  · rfl

theorem flat_append (st : Settings) (a b : List Tok) : flat st (a ++ b) = flat st a ++ flat st b := by
  induction a with
  | nil => simp [flat]
  | cons t r ih => simp [flat, ih, String.append_assoc]

theorem flat_single (st : Settings) (t : Tok) : flat st [t] = t.text st := by
  simp [flat]

theorem flat_lit (st : Settings) (s : String) (r : List Tok) : flat st (.lit s :: r) = s ++ flat st r := rfl

theorem commaSep_flat (st : Settings) (l : List (List Tok)) :
    commaSep (l.map (flat st)) = flat st (commaToks l) := by
  induction l with
  | nil => rfl
  | cons a r ih =>
    cases r with
    | nil => simp [commaSep, commaToks]
    | cons b r' =>
      simp only [List.map_cons, commaSep, commaToks] at ih ⊢
      rw [flat_append, flat_append, ← ih]
      simp [flat, Tok.text]

theorem commaSep_map_flat (st : Settings) {α : Type} (g : α → List Tok) (h : α → String) (l : List α)
    (hh : ∀ a, h a = flat st (g a)) :
    commaSep (l.map h) = flat st (commaToks (l.map g)) := by
  rw [← commaSep_flat, List.map_map]
  congr 1
  apply List.map_congr_left
  intro a _
  simp [hh]

/-- the configured map type is the only way a setting enters the text of a token list -/
theorem flat_congr {st st' : Settings} (h : st.mapType = st'.mapType) (l : List Tok) :
    flat st l = flat st' l := by
  induction l with
  | nil => rfl
  | cons t r ih => cases t <;> simp [flat, Tok.text, ih, h]

/-- **`type_ident` is the text of its tokens** -/
theorem typeIdent_eq_flat (st : Settings) (σ : Space) : ∀ (f : Nat) (t : Id),
    typeIdent st σ f t = flat st (typeToks σ f t) := by
  intro f
  induction f with
  | zero => intro t; rfl
  | succ f ih =>
    intro t
    unfold typeIdent typeToks
    cases hg : σ.get t with
    | none => rfl
    | some ent =>
      simp only
      cases hd : ent.details with
      | native name ps =>
        simp only
        split
        · simp [flat, Tok.text]
        · rw [commaSep_map_flat st (typeToks σ f) (typeIdent st σ f) ps (ih ·)]
          simp [flat, Tok.text, flat_append, String.append_assoc]
      | option t' =>
        simp only
        split
        · rename_i heq; simp only [heq]; exact ih t'
        · split
          · simp_all
          · simp [flat, Tok.text, flat_append, ih t', String.append_assoc]
      | box t' => simp [flat, Tok.text, flat_append, ih t', String.append_assoc]
      | vec t' => simp [flat, Tok.text, flat_append, ih t', String.append_assoc]
      | set t' => simp [flat, Tok.text, flat_append, ih t', String.append_assoc]
      | map k v =>
        simp only
        split
        · rename_i h1 h2; simp [h1, h2, flat, Tok.text]
        · rename_i hne
          split
          · rename_i h1 h2; exact (hne _ _ _ _ h1 h2).elim
          · simp [flat, Tok.text, flat_append, ih k, ih v, String.append_assoc]
      | array t' n => simp [flat, Tok.text, flat_append, ih t', String.append_assoc]
      | tuple ts =>
        simp only
        split
        · simp [flat, Tok.text, flat_append, ih, String.append_assoc]
        · rw [commaSep_map_flat st (typeToks σ f) (typeIdent st σ f) ts (ih ·)]
          simp [flat, Tok.text, flat_append, String.append_assoc]
      | _ => simp [flat, Tok.text]

theorem typeIdent_congr {st st' : Settings} (h : st.mapType = st'.mapType) (σ : Space) (f : Nat) :
    typeIdent st σ f = typeIdent st' σ f :=
  funext fun t => by rw [typeIdent_eq_flat, typeIdent_eq_flat, flat_congr h]

theorem mem_commaToks {x : Tok} {l : List (List Tok)} (h : x ∈ commaToks l) :
    x = .lit "," ∨ ∃ a, a ∈ l ∧ x ∈ a := by
  induction l with
  | nil => simp [commaToks] at h
  | cons a r ih =>
    cases r with
    | nil => simp [commaToks] at h; exact Or.inr ⟨a, by simp, h⟩
    | cons b r' =>
      simp only [commaToks, List.mem_append, List.mem_singleton] at h
      rcases h with (h | h) | h
      · exact Or.inr ⟨a, by simp, h⟩
      · exact Or.inl h
      · rcases ih h with h' | ⟨c, hc, hx⟩
        · exact Or.inl h'
        · exact Or.inr ⟨c, List.mem_cons_of_mem _ hc, hx⟩

/-- **a type name occurring in a type expression is the name of an entry of the space** -/
theorem name_mem_typeToks (σ : Space) : ∀ (f : Nat) (t : Id) (n : String),
    Tok.name n ∈ typeToks σ f t → ∃ e, e ∈ σ.entries ∧ e.2.details.name? = some n := by
  intro f
  induction f with
  | zero => intro t n h; simp [typeToks] at h
  | succ f ih =>
    intro t n h
    unfold typeToks at h
    cases hg : σ.get t with
    | none => simp [hg] at h
    | some ent =>
      simp only [hg] at h
      have hm := Space.get_mem hg
      cases hd : ent.details with
      | enum n' tag vs deny d bes =>
        simp [hd] at h; subst h; exact ⟨_, hm, by simp [hd, Details.name?]⟩
      | struct n' ps deny d =>
        simp [hd] at h; subst h; exact ⟨_, hm, by simp [hd, Details.name?]⟩
      | newtype n' inner c d =>
        simp [hd] at h; subst h; exact ⟨_, hm, by simp [hd, Details.name?]⟩
      | native name ps =>
        simp only [hd] at h
        split at h
        · simp at h
        · simp only [List.mem_append, List.mem_cons, reduceCtorEq, false_or,
            List.not_mem_nil, or_false] at h
          rcases mem_commaToks h with h' | ⟨a, ha, hx⟩
          · simp at h'
          · simp only [List.mem_map] at ha
            obtain ⟨p, _, rfl⟩ := ha
            exact ih p n hx
      | option t' =>
        simp only [hd] at h
        split at h
        · exact ih t' n h
        · simp at h; exact ih t' n h
      | box t' => simp [hd] at h; exact ih t' n h
      | vec t' => simp [hd] at h; exact ih t' n h
      | set t' => simp [hd] at h; exact ih t' n h
      | map k v =>
        simp only [hd] at h
        split at h
        · simp at h
        · simp at h
          rcases h with h | h
          · exact ih k n h
          · exact ih v n h
      | array t' m => simp [hd] at h; exact ih t' n h
      | tuple ts =>
        simp only [hd] at h
        split at h
        · simp at h; exact ih _ n h
        · simp only [List.mem_append, List.mem_cons, reduceCtorEq, false_or,
            List.not_mem_nil, or_false] at h
          rcases mem_commaToks h with h' | ⟨a, ha, hx⟩
          · simp at h'
          · simp only [List.mem_map] at ha
            obtain ⟨p, _, rfl⟩ := ha
            exact ih p n hx
      | _ => simp [hd] at h

theorem fieldS_congr {st st' : Settings} (h : st.mapType = st'.mapType) (σ : Space) : fieldS st σ = fieldS st' σ := by
  funext tn b p
  unfold fieldS fieldSerde
  simp only [h, typeIdent_congr h]

theorem variantS_congr {st st' : Settings} (h : st.mapType = st'.mapType) (σ : Space) :
    variantS st σ = variantS st' σ := by
  funext en v
  unfold variantS
  simp only [typeIdent_congr h, fieldS_congr h]

theorem convenienceFrom_congr {st st' : Settings} (h : st.mapType = st'.mapType) (σ : Space) :
    convenienceFrom st σ = convenienceFrom st' σ := by
  funext vs
  unfold convenienceFrom
  simp only [typeIdent_congr h]

theorem ExprOf.mono {st : Settings} {σ : Space} {ids ids' : List Id} {s : String}
    (hsub : ∀ t, t ∈ ids → t ∈ ids') (h : ExprOf st σ ids s) : ExprOf st σ ids' s := by
  rcases h with ⟨t, ht, rfl⟩ | ⟨a, ha, rfl⟩ | ⟨ts, hts, rfl⟩
  · exact Or.inl ⟨t, hsub t ht, rfl⟩
  · exact Or.inr (Or.inl ⟨a, hsub a ha, rfl⟩)
  · exact Or.inr (Or.inr ⟨ts, fun t ht => hsub t (hts t ht), rfl⟩)

theorem variantS_tys (st : Settings) (σ : Space) (en : String) (v : Variant) :
    ∀ s, s ∈ variantTys (variantS st σ en v).1 → ExprOf st σ (variantIds v) s := by
  intro s hs
  unfold variantS at hs
  unfold variantIds
  cases hd : v.details with
  | simple => simp [hd, variantTys] at hs
  | item t =>
    simp [hd, variantTys] at hs
    exact Or.inl ⟨t, by simp, hs⟩
  | tuple ts =>
    simp only [hd] at hs
    split at hs
    · rename_i a
      simp [variantTys] at hs
      exact Or.inr (Or.inl ⟨a, by simp, hs⟩)
    · simp [variantTys] at hs
      obtain ⟨t, ht, rfl⟩ := hs
      exact Or.inl ⟨t, ht, rfl⟩
  | struct ps =>
    simp [hd, variantTys] at hs
    obtain ⟨p, hp, rfl⟩ := hs
    exact Or.inl ⟨p.ty, by simp; exact ⟨p, hp, rfl⟩, fieldS_ty ..⟩

theorem mem_implTys {s : String} {k : ImplK} :
    s ∈ implTys k ↔ k = .fromInner s ∨ k = .tryFromInner s ∨ k = .intoInner s ∨ k = .fromVariant s := by
  cases k <;> simp [implTys, eq_comm]

theorem ExprOf.toks {st : Settings} {σ : Space} {ids : List Id} {s : String} (h : ExprOf st σ ids s) :
    ∃ toks, s = flat st toks ∧
      ∀ n, Tok.name n ∈ toks → ∃ e, e ∈ σ.entries ∧ e.2.details.name? = some n := by
  rcases h with ⟨t, _, rfl⟩ | ⟨a, _, rfl⟩ | ⟨ts, _, rfl⟩
  · exact ⟨typeToks σ fuel t, typeIdent_eq_flat .., fun n hn => name_mem_typeToks σ fuel t n hn⟩
  · refine ⟨[.lit "("] ++ typeToks σ fuel a ++ [.lit ",)"], ?_, ?_⟩
    · simp [flat_append, flat, Tok.text, typeIdent_eq_flat, String.append_assoc]
    · intro n hn
      simp at hn
      exact name_mem_typeToks σ fuel a n hn
  · refine ⟨[.lit "("] ++ commaToks (ts.map (typeToks σ fuel)) ++ [.lit ")"], ?_, ?_⟩
    · rw [commaSep_map_flat st (typeToks σ fuel) (typeIdent st σ fuel) ts (typeIdent_eq_flat st σ fuel ·)]
      simp [flat_append, flat, Tok.text, String.append_assoc]
    · intro n hn
      simp only [List.mem_append, List.mem_singleton, reduceCtorEq, false_or, or_false] at hn
      rcases mem_commaToks hn with h' | ⟨a, ha, hx⟩
      · simp at h'
      · simp only [List.mem_map] at ha
        obtain ⟨p, _, rfl⟩ := ha
        exact name_mem_typeToks σ fuel p n hx

theorem render_items (tb : DeriveTables) (st : Settings) (σ : Space) (it : ItemS)
    (h : it ∈ (render tb st σ).items) :
    ∃ e fns, e ∈ σ.entries ∧ itemOf tb st σ e.2 = some (it, fns) := by
  simp only [render, List.mem_map, List.mem_filterMap] at h
  obtain ⟨⟨it', fns⟩, ⟨e, he, hi⟩, rfl⟩ := h
  exact ⟨e, fns, he, hi⟩

theorem itemOf_name (tb : DeriveTables) (st : Settings) (σ : Space) (ent : Entry) :
    (itemOf tb st σ ent).map (·.1.name) = ent.details.name? := by
  obtain ⟨det, ed, im⟩ := ent
  cases det <;> rfl

theorem item_name (tb : DeriveTables) (st : Settings) (σ : Space) (ent : Entry) (it : ItemS)
    (fns : List String) (h : itemOf tb st σ ent = some (it, fns)) : ent.details.name? = some it.name := by
  rw [← itemOf_name tb st σ, h]; rfl

/-- a definition whose id maps to a native entry (replace, convert) contributes no item -/
theorem items_are_named_entries (tb : DeriveTables) (st : Settings) (σ : Space) :
    (render tb st σ).items.map (·.name) = σ.entries.filterMap (·.2.details.name?) := by
  simp only [render, List.map_filterMap]
  refine congrArg (List.filterMap · σ.entries) (funext fun e => ?_)
  rw [← itemOf_name tb st σ e.2, Option.map_map]
  rfl

end TypifyModel.SettingsApply

namespace TypifyModel.Render
open TypifyModel.SettingsApply

theorem mem_convenienceFrom {st : Settings} {σ : Space} {vs : List Variant} {k : ImplK}
    (h : k ∈ convenienceFrom st σ vs) :
    ∃ v ∈ vs, ∃ s, k = .fromVariant s ∧ ExprOf st σ (variantIds v) s := by
  unfold convenienceFrom at h
  obtain ⟨v, hv, hk⟩ := List.mem_filterMap.mp h
  refine ⟨v, hv, ?_⟩
  unfold variantKey variantIds at *
  cases hd : v.details with
  | simple => simp [hd] at hk
  | struct ps => simp [hd] at hk
  | item t =>
    simp only [hd] at hk
    split at hk
    · cases hk
    · split at hk
      · cases hk
      · cases hk; exact ⟨_, rfl, Or.inl ⟨t, List.mem_singleton.mpr rfl, rfl⟩⟩
  | tuple ts =>
    simp only [hd] at hk
    split at hk
    · cases hk
    · split at hk
      · cases hk; exact ⟨_, rfl, Or.inr (Or.inl ⟨_, List.mem_singleton.mpr rfl, rfl⟩)⟩
      · cases hk; exact ⟨_, rfl, Or.inr (Or.inr ⟨ts, fun _ h => h, rfl⟩)⟩

theorem not_mem_convenienceFrom {st : Settings} {σ : Space} {vs : List Variant} {k : ImplK}
    (hk : ∀ s, k ≠ .fromVariant s) : k ∉ convenienceFrom st σ vs :=
  fun h => let ⟨_, _, s, e, _⟩ := mem_convenienceFrom h; hk s e

/-- the `let naming` of `Render.fieldSerde` -/
def naming : Rename → List SerdeArg
  | .rename s => [.rename s]
  | .flatten => [.flatten]
  | .none => []

theorem naming_plain {r : Rename} {a : SerdeArg} (h : a ∈ naming r) : (∃ s, a = .rename s) ∨ a = .flatten := by
  cases r <;> simp [naming] at h <;> simp [h]

theorem naming_any (g : SerdeArg → Bool) (hr : ∀ s, g (.rename s) = false) (hf : g .flatten = false) (r : Rename) :
    (naming r).any g = false := by
  cases r <;> simp [naming, hr, hf]

/-- the `.skipIf` path of the `.optional` arm of `Render.fieldSerde`, if that arm writes one -/
def skipPath (st : Settings) (σ : Space) (t : Id) : Option String :=
  match σ.get t with
  | some ⟨.option _, _, _⟩ => some "::std::option::Option::is_none"
  | some ⟨.vec _, _, _⟩ => some "::std::vec::Vec::is_empty"
  | some ⟨.map k v, _, _⟩ =>
    some (if isStrAny σ k v then "::serde_json::Map::is_empty" else st.mapType ++ "::is_empty")
  | _ => none

/-- what the `match p.state` of `Render.fieldSerde` appends to `naming` -/
def stateArgs (st : Settings) (σ : Space) (tn : String) (p : Field) : List SerdeArg :=
  match p.state with
  | .required => []
  | .optional => .default :: (skipPath st σ p.ty).toList.map .skipIf
  | .dflt d =>
    match defaultFn σ tn p.name p.ty d with
    | some (fn, _) => [.defaultFn fn]
    | none => [.panics]

theorem fieldSerde_attrs (st : Settings) (σ : Space) (tn : String) (p : Field) :
    (fieldSerde st σ tn p).1 = naming p.rename ++ stateArgs st σ tn p := by
  unfold fieldSerde stateArgs naming
  cases p.state with
  | required => exact (List.append_nil _).symm
  | dflt d => dsimp only; cases defaultFn σ tn p.name p.ty d <;> rfl
  | optional =>
    unfold skipPath
    cases σ.get p.ty with
    | none => rfl
    | some ent =>
      obtain ⟨det, _, _⟩ := ent
      cases det with
      | map k w =>
        dsimp only
        split
        · rename_i h1 h2; rw [isStrAny_of_get h1 h2]; rfl
        · rename_i h; rw [isStrAny_of_not h]; rfl
      | _ => rfl

end TypifyModel.Render
