import TypifyModel.Model.Schema
/-! `Json.lookup` / `Json.erase`, `Validate.and3`, and lookup by key in a keyed list. -/
namespace TypifyModel

theorem find_key_eq {α : Type} {l : List (String × α)} {k : String} {q : String × α}
    (h : l.find? (fun p => p.1 == k) = some q) : q.1 = k ∧ q ∈ l :=
  ⟨by simpa using List.find?_some h, List.mem_of_find?_eq_some h⟩

namespace Json

theorem lookup_mem {kvs : List (String × Json)} {k : String} {j : Json}
    (h : lookup kvs k = some j) : (k, j) ∈ kvs := by
  induction kvs with
  | nil => cases h
  | cons a r ih =>
    obtain ⟨k', v'⟩ := a
    simp only [lookup] at h
    split at h
    · cases h; subst k'; exact List.mem_cons_self
    · exact List.mem_cons_of_mem _ (ih h)

theorem mem_lookup_ne_none {kvs : List (String × Json)} {k : String} {j : Json}
    (h : (k, j) ∈ kvs) : lookup kvs k ≠ none := by
  induction kvs with
  | nil => cases h
  | cons a r ih =>
    obtain ⟨k', v'⟩ := a
    simp only [lookup]
    split
    · nofun
    · rcases List.mem_cons.mp h with h | h
      · cases h; contradiction
      · exact ih h

theorem lookup_erase (kvs : List (String × Json)) (k r : String) :
    lookup (erase kvs k) r = if k = r then none else lookup kvs r := by
  induction kvs with
  | nil => simp [erase, lookup]
  | cons a rest ih =>
    unfold erase at ih ⊢
    by_cases ha : a.1 = k <;> by_cases hr : k = r <;> simp_all [lookup]

theorem lookup_erase_ne {kvs : List (String × Json)} {k r : String} (hne : r ≠ k) :
    lookup (erase kvs k) r = lookup kvs r := by
  rw [lookup_erase, if_neg (Ne.symm hne)]

theorem erase_id {es : List (String × Json)} {k : String} (h : ∀ kv ∈ es, kv.1 ≠ k) : erase es k = es :=
  List.filter_eq_self.mpr fun kv hkv => by simp [h kv hkv]

end Json

namespace Validate

theorem and3_some {p q : Option Bool} {r : Bool} (h : and3 p q = some r) :
    ∃ p' q', p = some p' ∧ q = some q' ∧ r = (p' && q') := by
  cases p <;> cases q <;> cases h
  exact ⟨_, _, rfl, rfl, rfl⟩

theorem and3_true {a b : Option Bool} (h : and3 a b = some true) : a = some true ∧ b = some true := by
  obtain ⟨p, q, rfl, rfl, h⟩ := and3_some h
  cases p <;> cases q <;> cases h
  exact ⟨rfl, rfl⟩

end Validate
end TypifyModel
