import TypifyModel.Model.Cycles
/-! C07, the graph side: what `idToBox` and the `Start` step of one entry (`startG`) do to the graph.
    Nothing here mentions the traversal. -/
namespace TypifyModel.Cycles

theorem Variant.childIds_mapIds (f : Nat → Nat) (v : Variant) :
    (v.mapIds f).childIds = v.childIds.map f := by
  cases v <;> rfl

theorem Node.childIds_mapChildren (f : Nat → Nat) (n : Node) :
    (n.mapChildren f).childIds = n.childIds.map f := by
  cases n with
  | enum vs =>
    simp only [Node.mapChildren, Node.childIds, List.flatMap_map, List.map_flatMap,
      Variant.childIds_mapIds]
  | _ => rfl

theorem map_eq_self {f : Nat → Nat} {l : List Nat} (h : ∀ c ∈ l, f c = c) : l.map f = l :=
  (List.map_congr_left h).trans (List.map_id l)

theorem Variant.mapIds_id (f : Nat → Nat) (v : Variant) (h : ∀ c ∈ v.childIds, f c = c) :
    v.mapIds f = v := by
  cases v with
  | simple => rfl
  | item i => exact congrArg Variant.item (h i (List.mem_singleton_self i))
  | tuple is => exact congrArg Variant.tuple (map_eq_self h)
  | struct is => exact congrArg Variant.struct (map_eq_self h)

theorem Node.mapChildren_id (f : Nat → Nat) (n : Node) (h : ∀ c ∈ n.childIds, f c = c) :
    n.mapChildren f = n := by
  cases n with
  | enum vs =>
    refine congrArg Node.enum ((List.map_congr_left fun v hv => ?_).trans (List.map_id vs))
    exact Variant.mapIds_id f v fun c hc => h c (List.mem_flatMap.mpr ⟨v, hv, hc⟩)
  | struct ps => exact congrArg Node.struct (map_eq_self h)
  | tuple ps => exact congrArg Node.tuple (map_eq_self h)
  | newtype i => exact congrArg Node.newtype (h i (List.mem_singleton_self i))
  | option i => exact congrArg Node.option (h i (List.mem_singleton_self i))
  | array i k => exact congrArg (Node.array · k) (h i (List.mem_singleton_self i))
  | _ => rfl

/-- by-value edge `u → v` -/
def E (g : G) (u v : Nat) : Prop := ∃ n, g.get u = some n ∧ v ∈ n.childIds

/-- no by-value child (heap nodes, scalars, missing ids) -/
def Leaf (g : G) (v : Nat) : Prop := ∀ n, g.get v = some n → n.childIds = []

theorem Leaf.no_edge {g : G} {u v : Nat} (hl : Leaf g u) : ¬ E g u v := fun ⟨n, hn, hv⟩ => by
  rw [hl n hn] at hv; cases hv

theorem Leaf.of_box {g : G} {b c : Nat} (h : g.get b = some (.box c)) : Leaf g b := fun n hn => by
  rw [h] at hn; cases hn; rfl

/-- nodes reachable from the roots `lo..hi` along by-value edges -/
inductive Reach (g : G) (lo hi : Nat) : Nat → Prop
  | root {r : Nat} : lo ≤ r → r < hi → Reach g lo hi r
  | step {u v : Nat} : Reach g lo hi u → E g u v → Reach g lo hi v

/-- non-empty by-value path -/
inductive Path (g : G) : Nat → Nat → Prop
  | single {a b : Nat} : E g a b → Path g a b
  | tail {a b c : Nat} : Path g a b → E g b c → Path g a c

theorem Reach.path {g : G} {lo hi u w : Nat} (hu : Reach g lo hi u) (p : Path g u w) :
    Reach g lo hi w := by
  induction p with
  | single e => exact .step hu e
  | tail _ e ih => exact .step ih e

theorem Path.descend {g : G} {act : List Nat} {u c : Nat} (hp : ∀ a ∈ act, Path g a u)
    (he : E g u c) : ∀ a ∈ u :: act, Path g a c := fun a ha => by
  rcases List.mem_cons.mp ha with rfl | ha
  · exact .single he
  · exact .tail (hp a ha) he

/-- every entry has an id below `next_id` (`assign()` hands out fresh ids) -/
def KeysBelow (g : G) : Prop := ∀ i n, g.get i = some n → i < g.next

/-- `KeysBelow`, and every by-value child is an entry -/
structure WF (g : G) : Prop where
  keys : KeysBelow g
  children : ∀ u v, E g u v → ∃ n, g.get v = some n

theorem mem_roots {lo hi r : Nat} : r ∈ roots lo hi ↔ lo ≤ r ∧ r < hi := by
  simp only [roots, List.mem_map, List.mem_range]
  exact ⟨fun ⟨a, ha, e⟩ => by omega, fun h => ⟨r - lo, by omega, by omega⟩⟩

def isLeaf (g : G) (v : Nat) : Bool :=
  match g.get v with
  | none => true
  | some n => n.childIds.isEmpty

theorem isLeaf_iff {g : G} {v : Nat} : isLeaf g v = true ↔ Leaf g v := by
  unfold isLeaf Leaf
  cases g.get v <;> simp [List.isEmpty_iff]

theorem set_get (g : G) (u x : Nat) (n : Node) :
    (g.set u n).get x = if x = u then some n else g.get x := rfl

theorem set_next (g : G) (u : Nat) (n : Node) : (g.set u n).next = g.next := rfl

/-- `g'` is `g` with `Box` entries added at ids from `g.next` on -/
structure BoxExt (g g' : G) : Prop where
  next : g.next ≤ g'.next
  old : ∀ {x}, x < g.next → g'.get x = g.get x
  new : ∀ {x n}, g'.get x = some n → g.get x = some n ∨ (g.next ≤ x ∧ ∃ c, n = .box c)
  keys : KeysBelow g → KeysBelow g'

theorem BoxExt.refl (g : G) : BoxExt g g := ⟨Nat.le_refl _, fun _ => rfl, Or.inl, id⟩

theorem BoxExt.trans {g g' g'' : G} (a : BoxExt g g') (b : BoxExt g' g'') : BoxExt g g'' where
  next := Nat.le_trans a.next b.next
  old hx := (b.old (Nat.lt_of_lt_of_le hx a.next)).trans (a.old hx)
  new h := match b.new h with
    | .inl h => a.new h
    | .inr ⟨hle, hc⟩ => .inr ⟨Nat.le_trans a.next hle, hc⟩
  keys h := b.keys (a.keys h)

theorem idToBox_ext (g : G) (c : Nat) : BoxExt g (idToBox g c) := by
  unfold idToBox
  split
  · exact .refl g
  · refine ⟨Nat.le_succ _, fun hx => if_neg (Nat.ne_of_lt hx), fun {x n} h => ?_, fun hk i n h => ?_⟩
    · by_cases hx : x = g.next
      · exact .inr ⟨Nat.le_of_eq hx.symm, c, (Option.some.inj ((if_pos hx).symm.trans h)).symm⟩
      · exact .inl ((if_neg hx).symm.trans h)
    · by_cases hi : i = g.next
      · exact hi ▸ Nat.lt_succ_self _
      · exact Nat.lt_succ_of_lt (hk i n ((if_neg hi).symm.trans h))

theorem foldl_idToBox_ext : ∀ (l : List Nat) (g : G), BoxExt g (l.foldl idToBox g)
  | [], g => .refl g
  | c :: l, g => (idToBox_ext g c).trans (foldl_idToBox_ext l _)

/-- an entry `Box(c)` exists below `next_id` -/
def hasBox (g : G) (c : Nat) : Prop := ∃ k, k < g.next ∧ g.get k = some (.box c)

theorem findBox_some {g : G} {c b : Nat} (h : findBox g c = some b) :
    b < g.next ∧ g.get b = some (.box c) :=
  ⟨List.mem_range.mp (List.mem_of_find?_eq_some h), by simpa using List.find?_some h⟩

theorem findBox_of_hasBox {g : G} {c : Nat} (h : hasBox g c) : ∃ b, findBox g c = some b :=
  let ⟨k, hk, hg⟩ := h
  Option.isSome_iff_exists.mp
    (List.find?_isSome.mpr ⟨k, List.mem_range.mpr hk, decide_eq_true hg⟩)

theorem hasBox.mono {g g' : G} {d : Nat} (h : hasBox g d) (e : BoxExt g g') : hasBox g' d :=
  let ⟨k, hk, hg⟩ := h
  ⟨k, Nat.lt_of_lt_of_le hk e.next, (e.old hk).trans hg⟩

theorem idToBox_hasBox_self (g : G) (c : Nat) : hasBox (idToBox g c) c := by
  unfold idToBox
  split
  · exact ⟨_, findBox_some ‹_›⟩
  · exact ⟨g.next, Nat.lt_succ_self _, if_pos rfl⟩

theorem foldl_hasBox {d : Nat} : ∀ (l : List Nat) (g : G), d ∈ l → hasBox (l.foldl idToBox g) d
  | c :: l, g, h => by
    rcases List.mem_cons.mp h with rfl | h
    · exact (idToBox_hasBox_self g d).mono (foldl_idToBox_ext l _)
    · exact foldl_hasBox l _ h

/-- the id a snipped child is redirected to is a `Box` of that child -/
theorem boxId_spec {g : G} {c : Nat} (h : hasBox g c) : g.get (boxId g c) = some (.box c) := by
  obtain ⟨b, hb⟩ := findBox_of_hasBox h
  rw [boxId, hb]
  exact (findBox_some hb).2

def snipG (g : G) (act : List Nat) (node : Node) : G :=
  (node.childIds.filter (fun c => decide (c ∈ act))).foldl idToBox g

/-- the graph after the `Start` step of an unvisited `u`; `act` already contains `u` -/
def startG (g : G) (act : List Nat) (u : Nat) (node : Node) : G :=
  (snipG g act node).set u (node.mapChildren (rewrite (snipG g act node) act))

variable {g : G} {act : List Nat} {u : Nat} {node : Node}

theorem snipG_ext : BoxExt g (snipG g act node) :=
  foldl_idToBox_ext _ g

theorem startG_next_le : g.next ≤ (startG g act u node).next :=
  snipG_ext.next

theorem startG_get_other {x : Nat} (hx : x ≠ u) (hk : x < g.next) :
    (startG g act u node).get x = g.get x :=
  (if_neg hx).trans (snipG_ext.old hk)

theorem startG_get_new {x : Nat} {n : Node} (hx : x ≠ u)
    (h : (startG g act u node).get x = some n) :
    g.get x = some n ∨ (g.next ≤ x ∧ ∃ c, n = .box c) :=
  snipG_ext.new ((if_neg hx).symm.trans h)

theorem startG_keys (hk : KeysBelow g) (hu : g.get u = some node) :
    KeysBelow (startG g act u node) := fun i n hn => by
  rw [startG, set_get] at hn
  split at hn
  · subst i; exact Nat.lt_of_lt_of_le (hk u node hu) startG_next_le
  · exact snipG_ext.keys hk i n hn

theorem startG_edges {x v : Nat} (hx : x ≠ u) (h : E (startG g act u node) x v) : E g x v := by
  obtain ⟨n, hn, hv⟩ := h
  rcases startG_get_new hx hn with h1 | ⟨_, c, rfl⟩
  · exact ⟨n, h1, hv⟩
  · cases hv

theorem startG_leaf (hu : g.get u = some node) {v : Nat} (h : Leaf g v) :
    Leaf (startG g act u node) v := fun n hn => by
  by_cases hv : v = u
  · subst hv
    rw [startG, set_get, if_pos rfl] at hn
    cases hn
    rw [Node.childIds_mapChildren, h node hu]; rfl
  · rcases startG_get_new hv hn with h1 | ⟨_, c, rfl⟩
    · exact h n h1
    · rfl

theorem startG_box_stable {b c : Nat} (hk : KeysBelow g) (hu : g.get u = some node)
    (hb : g.get b = some (.box c)) :
    (startG g act u node).get b = some (.box c) := by
  by_cases hbu : b = u
  · subst hbu
    cases hu.symm.trans hb
    exact if_pos rfl
  · exact (startG_get_other hbu (hk b _ hb)).trans hb

theorem startG_self (hk : KeysBelow g) (hu : g.get u = some node) :
    ∃ f : Nat → Nat, (startG g act u node).get u = some (node.mapChildren f) ∧
      ∀ c ∈ node.childIds, (c ∉ act ∧ f c = c) ∨
        (c ∈ act ∧ (startG g act u node).get (f c) = some (.box c)) := by
  refine ⟨rewrite (snipG g act node) act, if_pos rfl, fun c hc => ?_⟩
  by_cases hact : c ∈ act
  · have hbox : (snipG g act node).get (boxId (snipG g act node) c) = some (.box c) :=
      boxId_spec (foldl_hasBox _ _ (List.mem_filter.mpr ⟨hc, decide_eq_true hact⟩))
    -- the box id cannot be `u`: `u` has the child `c`, a `Box` entry has none
    have hne : boxId (snipG g act node) c ≠ u := fun heq => by
      rw [heq, snipG_ext.old (hk u node hu), hu] at hbox
      cases hbox; cases hc
    exact .inr ⟨hact, by rw [rewrite, if_pos hact, startG, set_get, if_neg hne]; exact hbox⟩
  · exact .inl ⟨hact, if_neg hact⟩

theorem startG_children {v : Nat} (hk : KeysBelow g) (hu : g.get u = some node)
    (h : E (startG g act u node) u v) :
    Leaf (startG g act u node) v ∨ (v ∈ node.childIds ∧ v ∉ act) := by
  obtain ⟨f, hf, hch⟩ := startG_self (act := act) hk hu
  obtain ⟨n, hn, hv⟩ := h
  cases hf.symm.trans hn
  rw [Node.childIds_mapChildren, List.mem_map] at hv
  obtain ⟨c, hc, rfl⟩ := hv
  rcases hch c hc with ⟨hact, hfc⟩ | ⟨_, hbox⟩
  · exact .inr (hfc.symm ▸ ⟨hc, hact⟩)
  · exact .inl (.of_box hbox)

theorem startG_noop (hu : g.get u = some node) (hc : ∀ c ∈ node.childIds, c ∉ act) :
    startG g act u node = g := by
  have hnil : snipG g act node = g := by
    rw [snipG, List.filter_eq_nil_iff.mpr fun c hcm => by simpa using hc c hcm]; rfl
  have hid : node.mapChildren (rewrite g act) = node :=
    Node.mapChildren_id _ _ fun c hcm => if_neg (hc c hcm)
  obtain ⟨get, next⟩ := g
  rw [startG, hnil, hid]
  refine congrArg (G.mk · next) (funext fun i => ?_)
  by_cases hi : i = u
  · subst hi; exact (if_pos rfl).trans hu.symm
  · exact if_neg hi

end TypifyModel.Cycles
