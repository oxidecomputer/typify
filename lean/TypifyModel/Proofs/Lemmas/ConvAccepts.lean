import TypifyModel.Proofs.Lemmas.ConvLemmas
/-! Acceptance construct by construct (C02): each lemma reads off `valid` what the instance looks like, unfolds the arm
    of `de` that reads it, and hands the parts to `Hrec`. -/
namespace TypifyModel.Conv
open TypifyModel TypifyModel.Serde TypifyModel.Validate

section
variable {x : Serde.Ext} {σ : Space}

theorem NR_de_zero {t : Id} {v : Json} : NR (de x σ 0 t v) := by simp [de, NR]

theorem de_box_NR {t t' : Id} {ed : List String} {im : List Impl} {v : Json}
    (hg : σ.get t = some ⟨.box t', ed, im⟩) (h : ∀ fd, NR (de x σ fd t' v)) : ∀ fd, NR (de x σ fd t v)
  | 0 => NR_de_zero
  | f + 1 => by simp only [de, hg]; exact h f

theorem de_alias_NR {t inner : Id} {nm : String} {dfl : Option Json} {ed : List String} {im : List Impl} {v : Json}
    (hg : σ.get t = some ⟨.newtype nm inner .none dfl, ed, im⟩) (h : ∀ fd, NR (de x σ fd inner v)) :
    ∀ fd, NR (de x σ fd t v)
  | 0 => NR_de_zero
  | f + 1 => by
    simp only [de, hg]
    split
    · exact NR_err (h f) ‹_›
    · exact NR_ok

/-- a nested `Option` is flattened -/
theorem de_option_NR {t t' : Id} {ed : List String} {im : List Impl} {f : Nat} {j : Json}
    (hg : σ.get t = some ⟨.option t', ed, im⟩) (hsub : NR (de x σ f t' j)) : NR (de x σ (f + 1) t j) := by
  simp only [de, hg]
  split
  · exact NR_ok
  · split
    · exact hsub
    · split
      · exact NR_ok
      · exact NR_err hsub ‹_›

theorem de_ext_str_NR {t : Id} {nm : String} {variants : List Variant} {deny : Bool} {dfl : Option Json}
    {bes : List Bespoke} {ed : List String} {im : List Impl} {w : String} {vr : Variant}
    (hget : σ.get t = some ⟨.enum nm .external variants deny dfl bes, ed, im⟩)
    (hfind : variants.find? (fun q => q.wire == w) = some vr) (hs : isSimple vr = true) (f : Nat) :
    NR (de x σ (f + 1) t (.str w)) := by
  obtain ⟨i, hi, hgi⟩ := find_findIdx hfind
  obtain ⟨raw, ident, det'⟩ := vr
  cases det' with
  | simple => simp [de, hget, hi, hgi, NR]
  | _ => cases hs

end

variable (x : Serde.Ext) (vx : Validate.Ext) (σ : Space) (d : Doc)

/-- induction hypothesis: at every smaller validity fuel, a type related by `rec` does not reject a
    valid instance -/
def Hrec (rec : Schema → Id → Bool) (n : Nat) : Prop :=
  ∀ m, m < n → ∀ s t v, rec s t = true → valid vx d m s v = some true → ∀ fd, NR (de x σ fd t v)

/-- a default value that does not deserialize is reported as `unsupported` -/
theorem dflt_ne_reject : ∀ (f : Nat) (t : Id), NR (dflt x σ f t) := by
  intro f
  induction f with
  | zero => intro t; simp [dflt, NR]
  | succ f ih =>
    intro t
    simp only [dflt]
    split
    · exact NR_unsupported
    · split
      all_goals first | exact NR_ok | exact NR_unsupported | exact ih _ | skip
      · -- integer
        split
        · split
          · exact NR_unsupported
          · exact NR_ok
        · exact NR_unsupported
      · -- tuple
        split
        · exact NR_ok
        · exact NR_err (mapM'_NR fun a _ => ih a) ‹_›
      · -- array
        split
        · exact NR_ok
        · exact NR_err (ih _) ‹_›
      · split <;> first | exact NR_unsupported | assumption
      · -- struct without default
        split
        · exact NR_ok
        · refine NR_err (mapM'_NR fun p _ => ?_) ‹_›
          split
          · exact NR_unsupported
          · split
            · exact NR_ok
            · exact NR_err (ih _) ‹_›
          · split <;> first | exact NR_ok | exact NR_unsupported | exact NR_error ‹_›
      · split <;> first | exact NR_unsupported | assumption
      · split <;> first | exact NR_unsupported | assumption

/-- the step that reads one named member of a valid object does not reject -/
theorem member_NR {rec : Schema → Id → Bool} {n m : Nat} (hm : m < n) (hrec : Hrec x vx σ d rec n)
    {props : List (String × Schema)} {req : List String}
    {named : List Field} {kvs : List (String × Json)}
    (hnd : nodupB (named.map (·.wire)) = true)
    (hall : named.all (fun p => props.any (fun q => q.1 == p.wire)) = true)
    (hprops : propsB rec σ named req props = true)
    (hreq : req.all (fun r => (Json.lookup kvs r).isSome) = true)
    (hmem' : ∀ kv ∈ kvs,
      (∃ q, props.find? (fun p => p.1 == kv.1) = some q ∧ valid vx d m q.2 kv.2 = some true) ∨
      props.find? (fun p => p.1 == kv.1) = none)
    (f : Nat) : ∀ p ∈ named, NR (
        match Json.lookup kvs p.wire with
        | some v => (match de x σ f p.ty v with | .ok a => .ok (p.name, a) | .error e => .error e)
        | none =>
          match p.state with
          | .required => if optionLikeT σ p.ty then .ok (p.name, Val.none) else .error .reject
          | .optional => (match dflt x σ f p.ty with | .ok a => .ok (p.name, a) | .error e => .error e)
          | .dflt dj => (match de x σ f p.ty dj with
              | .ok a => .ok (p.name, a)
              | .error .reject => .error .unsupported
              | .error e => .error e) : Except E (String × Val)) := by
  intro p hp
  -- by `nodupB`, `p` is the member read by that wire name
  obtain ⟨q, hqm, hqk⟩ := List.any_eq_true.mp (List.all_eq_true.mp hall p hp)
  have hqk : q.1 = p.wire := beq_iff_eq.mp hqk
  have hfind := nodupB_find_gen (·.wire) hnd p hp
  have hcond : ∀ q ∈ props, q.1 = p.wire →
      if req.contains q.1 then rec q.2 p.ty = true
      else (hasDefaultAttr p || optionLikeT σ p.ty) = true ∧
        (rec q.2 p.ty = true ∨ ∃ t' ed im, σ.get p.ty = some ⟨.option t', ed, im⟩ ∧
          (∀ t'' ed' im', σ.get t' ≠ some ⟨.option t'', ed', im'⟩) ∧ rec q.2 t' = true) := by
    intro q hqm hqk
    obtain ⟨p', hp', hc⟩ := propsB_mem hprops q hqm
    rw [hqk, hfind] at hp'
    cases hp'; exact hc
  split
  · -- present: the value is valid under the first property with this key
    rename_i j hl
    rcases hmem' _ (Json.lookup_mem hl) with ⟨q1, hq1, hvalid⟩ | hnone
    · obtain ⟨hq1k, hq1m⟩ := find_key_eq hq1
      have hc1 := hcond q1 hq1m hq1k
      have hde : NR (de x σ f p.ty j) := by
        split at hc1
        · exact hrec m hm _ _ _ hc1 hvalid f
        · rcases hc1.2 with hdir | ⟨t', ed, im, hg, _, hopt⟩
          · exact hrec m hm _ _ _ hdir hvalid f
          · cases f with
            | zero => exact NR_de_zero
            | succ f' => exact de_option_NR hg (hrec m hm _ _ _ hopt hvalid f')
      split
      · exact NR_ok
      · exact NR_err hde ‹_›
    · exact absurd (beq_iff_eq.mpr hqk) (List.find?_eq_none.mp hnone q hqm)
  · rename_i hl
    split
    · -- absent, no `#[serde(default)]`: the property is not required, so the member is `Option`-like
      rename_i hst
      have hc := hcond q hqm hqk
      split at hc
      · rename_i hr
        have := List.all_eq_true.mp hreq q.1 (by simpa using hr)
        rw [hqk, hl] at this; cases this
      · have h1 := hc.1
        simp only [hasDefaultAttr, hst, Bool.false_or] at h1
        simp [h1, NR]
    · split
      · exact NR_ok
      · exact NR_err (dflt_ne_reject x σ f p.ty) ‹_›
    · split <;> first | exact NR_ok | exact NR_unsupported | exact NR_error ‹_›

/-- a map with plain string keys does not reject an object whose member values are valid under the schema its value type
    stands for -/
theorem map_entries_NR {rec : Schema → Id → Bool} {n m : Nat} (hm : m < n) (hrec : Hrec x vx σ d rec n)
    {t k vt : Id} {ed : List String} {im : List Impl} (hget : σ.get t = some ⟨.map k vt, ed, im⟩)
    {edk : List String} {imk : List Impl} (hgk : σ.get k = some ⟨.string, edk, imk⟩)
    {sa : Schema} (hsa : rec sa vt = true) {c : List (String × Json)}
    (hc : ∀ kv ∈ c, valid vx d m sa kv.2 = some true) : ∀ fd, NR (de x σ fd t (.obj c)) := by
  intro fd
  cases fd with
  | zero => exact NR_de_zero
  | succ f =>
    simp only [de, hget]
    split
    · exact NR_ok
    · refine NR_err (mapM'_NR fun kv hkv => ?_) ‹_›
      have hval : NR (de x σ f vt kv.2) := hrec m hm sa vt kv.2 hsa (hc kv hkv) f
      cases f with
      | zero => simp [de, NR]
      | succ f' =>
        have hkey : de x σ (f' + 1) k (.str kv.1) = .ok (.str kv.1) := by simp only [de, hgk]
        rw [hkey]
        cases hr : de x σ (f' + 1) vt kv.2 with
        | ok b => exact NR_ok
        | error e => exact NR_err hval hr

theorem struct_accepts {rec : Schema → Id → Bool} {n m : Nat} (hm : m < n) (hrec : Hrec x vx σ d rec n)
    {props : List (String × Schema)} {req : List String} {addl : Additional Schema}
    {fields : List Field} {deny : Bool} {kvs : List (String × Json)}
    (hb : structB rec σ props req addl fields deny = true)
    (hv : valid vx d (m + 1) (.object props req addl) (.obj kvs) = some true) :
    ∀ fd, NR (deStruct x σ fd fields deny (.obj kvs)) := by
  intro fd
  cases fd with
  | zero => simp [deStruct, NR]
  | succ f =>
    obtain ⟨_, hkv, hreq, hmem⟩ := valid_object hv
    cases hkv
    have hmem' := membersV_spec hmem
    have hnamed := fun {named} hnd hall hprops =>
      member_NR x vx σ d hm hrec (named := named) hnd hall hprops hreq (fun kv hkv => (hmem' kv hkv).imp id (·.1)) f
    rcases Bool.or_eq_true_iff.mp hb with hb | hb
    · -- no flattened member
      simp only [structPlainB, Bool.and_eq_true, Bool.not_eq_true'] at hb
      obtain ⟨⟨⟨⟨hfl, hnd⟩, haddl⟩, hall⟩, hprops⟩ := hb
      simp only [deStruct, hfl, Bool.false_eq_true, if_false]
      split
      · -- the closed-object check cannot fire
        rename_i hdeny
        simp only [Bool.and_eq_true, List.any_eq_true, Bool.not_eq_true', List.any_eq_false] at hdeny
        obtain ⟨hd, kv, hkv, hk⟩ := hdeny
        rcases hmem' kv hkv with ⟨q, hq, _⟩ | ⟨_, hno⟩
        · obtain ⟨p, hp, hpw⟩ := propsB_field hprops hq
          exact absurd (beq_iff_eq.mpr hpw) (hk p hp)
        · subst hd; cases addl <;> first | exact absurd rfl hno | cases haddl
      · split
        · exact NR_ok
        · exact NR_err (mapM'_NR (hnamed hnd hall hprops)) ‹_›
    · -- `additionalProperties: <schema>`: named members plus one flattened map
      simp only [structFlatB, Bool.and_eq_true] at hb
      obtain ⟨⟨⟨haddl, hnd⟩, hall⟩, hprops⟩ := hb
      split at haddl
      · rename_i sa
        simp only [Bool.and_eq_true, Bool.not_eq_true'] at haddl
        obtain ⟨hdn, hflat⟩ := haddl
        subst hdn
        split at hflat
        · rename_i e hfe
          split at hflat
          · rename_i k vt ed' im' hge
            obtain ⟨hk, hsa⟩ := Bool.and_eq_true_iff.mp hflat
            split at hk
            · rename_i edk imk hgk
              have hflt : ∀ p ∈ fields, p.rename = .flatten ↔ p = e := fun p hp => by
                have : p ∈ fields.filter (fun p => p.rename == .flatten) ↔ p = e := by rw [hfe]; simp
                simpa [List.mem_filter, hp] using this
              have hefl : hasFlatten fields = true := by
                have := List.mem_filter.mp (hfe ▸ List.mem_singleton_self e : e ∈ fields.filter _)
                exact List.any_eq_true.mpr ⟨e, this⟩
              simp only [deStruct, hefl, if_true]
              have hmemS := membersV_spec_schema hmem
              -- every buffered entry is an additional member, valid under the additional schema
              have hinv : ∀ kv ∈ bufferOf fields kvs, valid vx d m sa kv.2 = some true := by
                intro kv hkv
                simp only [bufferOf, List.mem_filter, Bool.not_eq_true', List.any_eq_false, Bool.and_eq_true,
                  bne_iff_ne, ne_eq, beq_iff_eq, not_and] at hkv
                rcases hmemS kv hkv.1 with ⟨q, hq, _⟩ | ⟨_, hva⟩
                · obtain ⟨p, hp, hpw⟩ := propsB_field hprops hq
                  simp only [namedOf, List.mem_filter, bne_iff_ne, ne_eq] at hp
                  exact absurd hpw (hkv.2 p hp.1 hp.2)
                · exact hva
              have hfold := foldFields_NR_inv (fun c => ∀ kv ∈ c, valid vx d m sa kv.2 = some true)
                fields (bufferOf fields kvs) hinv
                (fun p hp hpf => hnamed hnd hall hprops p
                  (by simp only [namedOf, List.mem_filter, bne_iff_ne, ne_eq]; exact ⟨hp, hpf⟩))
                (flat := fun (p : Field) c => deFlat x σ f p.ty c)
                (fun p hp hpf c' hc' => by
                  cases (hflt p hp).mp hpf
                  cases f with
                  | zero => exact ⟨by simp [deFlat, NR], by simpa [deFlat] using hc'⟩
                  | succ f' =>
                    rw [deFlat_map_eq x σ hge]
                    exact ⟨map_entries_NR x vx σ d hm hrec hge hgk hsa hc' (f' + 1), hc'⟩)
              split
              · exact NR_err hfold (congrArg Prod.fst ‹_ = _›)
              · exact NR_ok
            · cases hk
          · cases hflat
        · cases hflat
      · cases haddl

theorem tuple_accepts {rec : Schema → Id → Bool} {n m : Nat} (hm : m < n) (hrec : Hrec x vx σ d rec n)
    {items : List Schema} {ts : List Id} {xs : List Json}
    (hb : zipB rec items ts = true) (hv : zipV (valid vx d m) items xs = some true) (f : Nat) :
    NR (zipM (de x σ f) ts xs) := by
  obtain ⟨hl1, hz1⟩ := zipB_spec hb
  obtain ⟨hl2, hz2⟩ := zipV_spec hv
  refine zipM_NR (hl1.symm.trans hl2) fun k t j ht hj => ?_
  have hk : k < items.length := hl1 ▸ (List.getElem?_eq_some_iff.mp ht).1
  have hs := List.getElem?_eq_getElem hk
  exact hrec m hm _ t j (hz1 k _ t hs ht) (hz2 k _ j hs hj) f

theorem variant_accepts {rec : Schema → Id → Bool} {n m : Nat} (hm : m < n) (hrec : Hrec x vx σ d rec n)
    {deny : Bool} {s : Schema} {det : VDetails} {v : Json}
    (hb : variantB rec (structB rec σ) deny s det = true)
    (hv : valid vx d m s v = some true) (f : Nat) :
    ∀ seqOk, NR (deVariantBody x σ f det deny seqOk v) := by
  intro seqOk
  cases f with
  | zero => simp [deVariantBody, NR]
  | succ f =>
    unfold variantB at hb
    split at hb
    · cases valid_null hv
      simp [deVariantBody, NR]
    · simp only [deVariantBody]
      exact hrec m hm _ _ v hb hv f
    · cases m with
      | zero => cases hv
      | succ m' =>
        obtain ⟨xs, rfl, hz⟩ := valid_tuple hv
        simp only [deVariantBody]
        split
        · exact NR_ok
        · exact NR_err (tuple_accepts x vx σ d (Nat.lt_of_succ_lt hm) hrec hb hz f) ‹_›
    · cases m with
      | zero => cases hv
      | succ m' =>
        obtain ⟨kvs, rfl, _⟩ := valid_object hv
        simp only [deVariantBody]
        cases seqOk <;> exact struct_accepts x vx σ d (Nat.lt_of_succ_lt hm) hrec hb hv f
    · cases hb

theorem variants_accept {rec : Schema → Id → Bool} {n m : Nat} (hm : m < n) (hrec : Hrec x vx σ d rec n)
    {deny : Bool} {ss : List Schema} {variants : List Variant} {v : Json}
    (hb : variantsB rec σ deny ss variants = true)
    (alt : ∃ (k : Nat) (s : Schema), ss[k]? = some s ∧ valid vx d m s v = some true) (f : Nat) :
    NR (firstOk (fun (vr : Variant) i =>
          match deVariantBody x σ f vr.details deny false v with
          | .ok p => .ok (.variant i p)
          | .error e => .error e) variants 0) := by
  simp only [variantsB, Bool.and_eq_true, decide_eq_true_eq] at hb
  obtain ⟨hlen, hall⟩ := hb
  obtain ⟨k, s, hk, hs⟩ := alt
  have hkl : k < variants.length := hlen ▸ (List.getElem?_eq_some_iff.mp hk).1
  have hvk := List.getElem?_eq_getElem hkl
  have hz : (ss.zip variants)[k]? = some (s, variants[k]) := List.getElem?_zip_eq_some.mpr ⟨hk, hvk⟩
  have hvb := List.all_eq_true.mp hall _ (List.mem_of_getElem? hz)
  refine firstOk_NR (n := k) hvk ?_
  split
  · exact NR_ok
  · exact NR_err (variant_accepts x vx σ d hm hrec hvb hs f false) ‹_›

theorem ext_accepts {rec : Schema → Id → Bool} {n m : Nat} (hm : m < n) (hrec : Hrec x vx σ d rec n)
    {t : Id} {nm : String} {variants : List Variant} {deny : Bool} {dfl : Option Json} {bes : List Bespoke}
    {ed : List String} {im : List Impl} {ss : List Schema} {v : Json}
    (hget : σ.get t = some ⟨.enum nm .external variants deny dfl bes, ed, im⟩)
    (hnd : nodupB (variants.map (·.wire)) = true)
    (hall : ss.all (extBranchB rec σ deny variants) = true)
    (alt : ∃ (k : Nat) (s : Schema), ss[k]? = some s ∧ valid vx d m s v = some true) (f : Nat) :
    NR (de x σ (f + 1) t v) := by
  obtain ⟨k, s, hk, hs⟩ := alt
  have hbr := List.all_eq_true.mp hall s (List.mem_of_getElem? hk)
  cases m with
  | zero => cases hs
  | succ m' =>
  unfold extBranchB at hbr
  split at hbr
  · -- a string naming a data-less variant
    obtain ⟨w, rfl, hw⟩ := valid_enum_str hs hbr
    obtain ⟨vr, hvrm, hvr⟩ := List.any_eq_true.mp hw
    obtain ⟨hvrw, hvrs⟩ := Bool.and_eq_true_iff.mp hvr
    have hfind := nodupB_find_gen (·.wire) hnd vr hvrm
    rw [beq_iff_eq.mp hvrw] at hfind
    exact de_ext_str_NR hget hfind hvrs f
  · -- a closed single-member object
    rename_i k0 sk k0'
    obtain ⟨hkk, hvb⟩ := Bool.and_eq_true_iff.mp hbr
    cases beq_iff_eq.mp hkk
    split at hvb
    · rename_i vr hfind
      obtain ⟨kvs, rfl, hreq, hmem⟩ := valid_object hs
      have hall' : ∀ kv ∈ kvs, kv.1 = k0 ∧ valid vx d m' sk kv.2 = some true := by
        intro kv hkv
        rcases membersV_spec hmem kv hkv with ⟨q, hq, hvq⟩ | ⟨_, hno⟩
        · simp only [List.find?] at hq
          split at hq
          · cases hq; exact ⟨(beq_iff_eq.mp ‹_›).symm, hvq⟩
          · cases hq
        · exact absurd rfl hno
      cases kvs with
      | nil => simp [Json.lookup] at hreq
      | cons a rest =>
        obtain ⟨ka, body⟩ := a
        obtain ⟨hka, hvbody⟩ := hall' (ka, body) List.mem_cons_self
        cases hka
        have hrest : rest.all (fun kv => kv.1 == ka) = true :=
          List.all_eq_true.mpr fun kv hkv => beq_iff_eq.mpr (hall' kv (List.mem_cons_of_mem _ hkv)).1
        obtain ⟨i, hi, hgi⟩ := find_findIdx hfind
        simp only [de, hget, hrest, Bool.not_true, Bool.false_eq_true, if_false, hi, hgi]
        split
        · exact NR_ok
        · exact NR_err (variant_accepts x vx σ d (Nat.lt_of_succ_lt hm) hrec hvb hvbody f true) ‹_›
    · cases hvb
  · cases hbr

/-- the tag member of a valid branch is the string the branch's one-value enum names -/
theorem tag_member {m : Nat} {props : List (String × Schema)} {req : List String} {addl : Additional Schema}
    {kvs : List (String × Json)} {tg w : String} {q : String × Schema}
    (hv : valid vx d (m + 1) (.object props req addl) (.obj kvs) = some true)
    (hfind : props.find? (fun p => p.1 == tg) = some q) (hq : q.2 = .enumVals [.str w])
    (hreq : req.contains tg = true) : Json.lookup kvs tg = some (.str w) := by
  obtain ⟨_, hkv, hr, hmem⟩ := valid_object hv
  cases hkv
  have hpres := List.all_eq_true.mp hr tg (by simpa using hreq)
  cases hl : Json.lookup kvs tg with
  | none => rw [hl] at hpres; cases hpres
  | some jt =>
    rcases membersV_spec hmem (tg, jt) (Json.lookup_mem hl) with ⟨q', hq', hvq⟩ | ⟨hnone, _⟩
    · rw [hfind] at hq'
      cases hq'
      rw [hq] at hvq
      cases m with
      | zero => cases hvq
      | succ m' =>
        simp only [valid, Option.some.injEq, List.any_cons, List.any_nil, Bool.or_false] at hvq
        rw [beq_str_left hvq]
    · rw [hfind] at hnone; cases hnone

theorem int_accepts {rec : Schema → Id → Bool} {n m : Nat} (hm : m < n) (hrec : Hrec x vx σ d rec n)
    {t : Id} {nm tg : String} {variants : List Variant} {deny : Bool} {dfl : Option Json} {bes : List Bespoke}
    {ed : List String} {im : List Impl} {ss : List Schema} {v : Json}
    (hget : σ.get t = some ⟨.enum nm (.internal tg) variants deny dfl bes, ed, im⟩)
    (hall : ss.all (intBranchB rec σ deny tg variants) = true)
    (alt : ∃ (k : Nat) (s : Schema), ss[k]? = some s ∧ valid vx d m s v = some true) (f : Nat) :
    NR (de x σ (f + 1) t v) := by
  obtain ⟨k, s, hk, hs⟩ := alt
  have hbr := List.all_eq_true.mp hall s (List.mem_of_getElem? hk)
  cases m with
  | zero => cases hs
  | succ m' =>
  unfold intBranchB at hbr
  split at hbr
  · rename_i props req addl
    split at hbr
    · rename_i q0 w hfind
      obtain ⟨hreq, hbr⟩ := Bool.and_eq_true_iff.mp hbr
      obtain ⟨kvs, rfl, hr, hmem⟩ := valid_object hs
      have htag := tag_member vx d hs hfind rfl hreq
      split at hbr
      · rename_i vr hvr
        obtain ⟨i, hi, hgi⟩ := find_findIdx hvr
        have hv' : valid vx d (m' + 1) (.object (props.filter (fun p => p.1 != tg)) (req.filter (· != tg)) addl)
            (.obj (Json.erase kvs tg)) = some true := by
          simp only [valid, membersV_erase hmem, req_erase hr]; rfl
        obtain ⟨raw, ident, det'⟩ := vr
        simp only [de, hget, htag, hi, hgi]
        cases det' with
        | simple => exact NR_ok
        | struct ps =>
          simp only
          split
          · exact NR_ok
          · exact NR_err (struct_accepts x vx σ d (Nat.lt_of_succ_lt hm) hrec hbr hv' f) ‹_›
        | item t' =>
          simp only
          split
          · exact NR_ok
          · exact NR_err (hrec (m' + 1) hm _ t' _ hbr hv' f) ‹_›
        | tuple ts => cases hbr
      · cases hbr
    · cases hbr
  · cases hbr

theorem adj_accepts {rec : Schema → Id → Bool} {n m : Nat} (hm : m < n) (hrec : Hrec x vx σ d rec n)
    {t : Id} {nm tg ct : String} {variants : List Variant} {deny : Bool} {dfl : Option Json} {bes : List Bespoke}
    {ed : List String} {im : List Impl} {ss : List Schema} {v : Json}
    (hget : σ.get t = some ⟨.enum nm (.adjacent tg ct) variants deny dfl bes, ed, im⟩)
    (hall : ss.all (adjBranchB rec σ deny tg ct variants) = true)
    (alt : ∃ (k : Nat) (s : Schema), ss[k]? = some s ∧ valid vx d m s v = some true) (f : Nat) :
    NR (de x σ (f + 1) t v) := by
  obtain ⟨k, s, hk, hs⟩ := alt
  have hbr := List.all_eq_true.mp hall s (List.mem_of_getElem? hk)
  cases m with
  | zero => cases hs
  | succ m' =>
  unfold adjBranchB at hbr
  split at hbr
  · rename_i props req addl
    split at hbr
    · rename_i q0 w hfind
      simp only [Bool.and_eq_true] at hbr
      obtain ⟨⟨hreq, hdeny⟩, hbr⟩ := hbr
      obtain ⟨kvs, rfl, hr, hmem⟩ := valid_object hs
      have htag := tag_member vx d hs hfind rfl hreq
      have hmem' := membersV_spec hmem
      have hclosed : isClosed addl = true → ∀ {key jv}, Json.lookup kvs key = some jv →
          ∃ q, props.find? (fun p => p.1 == key) = some q ∧ valid vx d m' q.2 jv = some true := by
        intro hcl key jv hl
        rcases hmem' _ (Json.lookup_mem hl) with h | ⟨_, hno⟩
        · exact h
        · cases addl <;> first | exact absurd rfl hno | cases hcl
      -- the closed-wrapper check of the generated code cannot fire
      have hdn : (deny && kvs.any (fun kv => kv.1 ≠ tg && kv.1 ≠ ct)) = false := by
        cases deny with
        | false => rfl
        | true =>
          obtain ⟨hcl, hpa⟩ := Bool.and_eq_true_iff.mp hdeny
          refine Bool.eq_false_iff.mpr fun hany => ?_
          obtain ⟨kv, hkv, hne⟩ := List.any_eq_true.mp hany
          rcases hmem' kv hkv with ⟨q, hq, _⟩ | ⟨_, hno⟩
          · obtain ⟨hqk, hqm⟩ := find_key_eq hq
            have := List.all_eq_true.mp hpa q hqm
            simp [hqk] at this hne
            exact this.elim hne.1 hne.2
          · cases addl <;> first | exact absurd rfl hno | cases hcl
      simp only [de, hget, hdn, Bool.false_eq_true, if_false, htag]
      split at hbr
      · -- no content member declared: data-less variant, closed wrapper
        rename_i vr hvr hnoct
        simp only [Bool.and_eq_true, bne_iff_ne, ne_eq] at hbr
        obtain ⟨⟨hsimp, hcl⟩, _⟩ := hbr
        obtain ⟨i, hi, hgi⟩ := find_findIdx hvr
        have hlc : Json.lookup kvs ct = none := by
          cases hl : Json.lookup kvs ct with
          | none => rfl
          | some jc =>
            obtain ⟨q, hq, _⟩ := hclosed hcl hl
            rw [hnoct] at hq; cases hq
        obtain ⟨raw, ident, det'⟩ := vr
        cases det' with
        | simple => simp [hi, hgi, hlc, NR]
        | _ => cases hsimp
      · -- content member declared and required
        rename_i vr qc sc hvr hct
        simp only [Bool.and_eq_true, bne_iff_ne, ne_eq] at hbr
        obtain ⟨⟨hreqc, _⟩, hvb⟩ := hbr
        obtain ⟨i, hi, hgi⟩ := find_findIdx hvr
        have hpres := List.all_eq_true.mp hr ct (by simpa using hreqc)
        cases hl : Json.lookup kvs ct with
        | none => rw [hl] at hpres; cases hpres
        | some body =>
          have hvbody : valid vx d m' sc body = some true := by
            rcases hmem' _ (Json.lookup_mem hl) with ⟨q, hq, hvq⟩ | ⟨hnone, _⟩
            · rw [hct] at hq; cases hq; exact hvq
            · rw [hct] at hnone; cases hnone
          have hnr := variant_accepts x vx σ d (Nat.lt_of_succ_lt hm) hrec hvb hvbody f false
          obtain ⟨raw, ident, det'⟩ := vr
          simp only [hi, hgi]
          cases det' with
          | simple =>
            -- payload schema is `null`, so the content is `null`
            cases sc <;> simp [variantB] at hvb
            cases valid_null hvbody
            exact NR_ok
          | _ =>
            simp only
            split
            · exact NR_ok
            · exact NR_err hnr ‹_›
      · cases hbr
    · cases hbr
  · cases hbr

end TypifyModel.Conv
