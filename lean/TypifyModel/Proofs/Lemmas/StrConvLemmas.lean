import TypifyModel.Model.StrConv
namespace TypifyModel.Serde
open TypifyModel

theorem fmtLiteral_escape : ∀ cs : List Char, fmtLiteral (escapeBraces cs) = some cs := by
  intro cs
  induction cs with
  | nil => simp [escapeBraces, fmtLiteral]
  | cons c r ih =>
    by_cases hb : c = '{' ∨ c = '}'
    · simp [escapeBraces, fmtLiteral, hb, ih]
    · have he : escapeBraces (c :: r) = c :: escapeBraces r := by simp [escapeBraces, hb]
      rw [he]
      have hf : ∀ t, fmtLiteral (c :: t) = (fmtLiteral t).map (c :: ·) := by
        intro t; rw [fmtLiteral.eq_def]; simp [hb]
      rw [hf, ih]; rfl

theorem findIdx_wire_raw (vs : List Variant) (s : String) :
    vs.findIdx? (fun v => v.wire == s) = vs.findIdx? (fun v => v.rawName == s) := by
  congr 1; funext v; rw [Variant.wire_eq_raw]

theorem allSimple_get {vs : List Variant} (h : isAllSimple vs = true) {i : Nat} {v : Variant}
    (hv : vs[i]? = some v) : v.details = .simple := by
  unfold isAllSimple at h
  rw [List.all_eq_true] at h
  have hm : v ∈ vs := List.mem_of_getElem? hv
  have := h v hm
  cases hd : v.details <;> simp [hd] at this ⊢

end TypifyModel.Serde
