import TypifyModel.Proofs.Lemmas.RoundTripLemmas
/-! Structs in the round-trip theorem (C03): where the member values `deStruct` produces come from. -/
namespace TypifyModel.RoundTrip
open TypifyModel TypifyModel.Serde

variable (x : Ext) (σ : Space)

/-- where a member value of a deserialized struct comes from -/
def FieldVal (f : Nat) (p : Field) (a : Val) : Prop :=
  (∃ j, de x σ f p.ty j = .ok a) ∨ (p.state matches .optional ∧ dflt x σ f p.ty = .ok a)

def FieldsRel (f : Nat) : List Field → List (String × Val) → Prop
  | [], [] => True
  | p :: ps, (n, a) :: fs => n = p.name ∧ FieldVal x σ f p a ∧ FieldsRel f ps fs
  | _, _ => False

/-- the member step of `deStruct` on an object, with the object as a parameter -/
def stepE (f : Nat) (obj : List (String × Json)) (p : Field) : Except E (String × Val) :=
  match Json.lookup obj p.wire with
  | some v => (match de x σ f p.ty v with | .ok a => .ok (p.name, a) | .error e => .error e)
  | none =>
    match p.state with
    | .required => if optionLikeT σ p.ty then .ok (p.name, Val.none) else .error .reject
    | .optional => (match dflt x σ f p.ty with | .ok a => .ok (p.name, a) | .error e => .error e)
    | .dflt d => (match de x σ f p.ty d with
        | .ok a => .ok (p.name, a)
        | .error .reject => .error .unsupported
        | .error e => .error e)

theorem deStruct_obj {f : Nat} {ps : List Field} {deny : Bool} {kvs : List (String × Json)}
    (hfl : hasFlatten ps = false) :
    deStruct x σ (f + 1) ps deny (.obj kvs) =
      if deny && kvs.any (fun kv => !(ps.any (fun p => p.wire == kv.1))) then .error .reject else
      (match mapM' (stepE x σ f kvs) ps with
       | .ok fs => .ok (.struct fs)
       | .error e => .error e) := by
  simp only [deStruct, hfl, Bool.false_eq_true, if_false]
  rfl

theorem deStruct_flat {f : Nat} {ps : List Field} {deny : Bool} {kvs : List (String × Json)}
    (hfl : hasFlatten ps = true) :
    deStruct x σ (f + 1) ps deny (.obj kvs) =
      (match foldFields (stepE x σ f kvs) (fun p c => deFlat x σ f p.ty c) ps (bufferOf ps kvs) with
       | (.error e, _) => .error e
       | (.ok fs, rest) => if deny && !rest.isEmpty then .error .reject else .ok (.struct fs)) := by
  simp only [deStruct, hfl, if_true]
  rfl

/-- one member in the object and in the array form of `deStruct` alike: `o` is its JSON if present, `R` the answer for a
    missing `required` member -/
def memberStep (f : Nat) (o : Option Json) (R : Except E (String × Val)) (p : Field) : Except E (String × Val) :=
  match o with
  | some v => (match de x σ f p.ty v with | .ok a => .ok (p.name, a) | .error e => .error e)
  | none =>
    match p.state with
    | .required => R
    | .optional => (match dflt x σ f p.ty with | .ok a => .ok (p.name, a) | .error e => .error e)
    | .dflt d => (match de x σ f p.ty d with
        | .ok a => .ok (p.name, a)
        | .error .reject => .error .unsupported
        | .error e => .error e)

theorem memberStep_ok {f : Nat} {o : Option Json} {R : Except E (String × Val)} {p : Field} {r : String × Val}
    (h : memberStep x σ f o R p = .ok r) :
    (o = none ∧ p.state = .required ∧ R = .ok r) ∨ (r.1 = p.name ∧ FieldVal x σ f p r.2) := by
  unfold memberStep at h
  split at h
  next v =>
    split at h
    next a hd => cases h; exact Or.inr ⟨rfl, Or.inl ⟨v, hd⟩⟩
    next => cases h
  next =>
    split at h
    next hst => exact Or.inl ⟨rfl, hst, h⟩
    next hst =>
      split at h
      next a hd => cases h; exact Or.inr ⟨rfl, Or.inr ⟨by rw [hst], hd⟩⟩
      next => cases h
    next d hst =>
      split at h
      next a hd => cases h; exact Or.inr ⟨rfl, Or.inl ⟨d, hd⟩⟩
      all_goals cases h

theorem mapM'_fieldsRel_of {α : Type} {f : Nat} {π : α → Field} {g : α → Except E (String × Val)} :
    ∀ {l : List α} {fs : List (String × Val)},
      (∀ a ∈ l, ∀ r, g a = .ok r → r.1 = (π a).name ∧ FieldVal x σ f (π a) r.2) →
      mapM' g l = .ok fs → FieldsRel x σ f (l.map π) fs
  | [], _, _, h => by cases h; trivial
  | a :: l, _, hg, h => by
    obtain ⟨⟨n, v⟩, bs, hb, hbs, rfl⟩ := okCons_inv h
    obtain ⟨h1, h2⟩ := hg a List.mem_cons_self _ hb
    exact ⟨h1, h2, mapM'_fieldsRel_of (fun a' ha' => hg a' (List.mem_cons_of_mem _ ha')) hbs⟩

theorem mapM'_fieldsRel {f : Nat} {g : Field → Except E (String × Val)}
    (hg : ∀ p r, g p = .ok r → r.1 = p.name ∧ FieldVal x σ f p r.2) :
    ∀ {ps : List Field} {fs : List (String × Val)}, mapM' g ps = .ok fs → FieldsRel x σ f ps fs := by
  intro ps fs h
  have := mapM'_fieldsRel_of x σ (π := id) (fun p _ => hg p) h
  rwa [List.map_id] at this

theorem stepE_fieldsRel {f : Nat} {ps : List Field} {kvs : List (String × Json)} {fs : List (String × Val)}
    (hreq : ps.all (fun p => match p.state with | .required => !optionLikeT σ p.ty | _ => true) = true)
    (hm : mapM' (stepE x σ f kvs) ps = .ok fs) : FieldsRel x σ f ps fs := by
  -- `stepE … p` unfolds to `memberStep` at `Json.lookup kvs p.wire`, so `hr` is a `memberStep` hypothesis
  have := mapM'_fieldsRel_of x σ (π := id) (fun p hp r hr =>
    (memberStep_ok x σ (p := p) (o := Json.lookup kvs p.wire)
      (R := if optionLikeT σ p.ty then .ok (p.name, Val.none) else .error .reject) hr).resolve_left
      fun ⟨_, hst, hR⟩ => by
        have hp := List.all_eq_true.mp hreq p hp
        simp only [hst, Bool.not_eq_true'] at hp
        simp only [hp, Bool.false_eq_true, if_false] at hR
        cases hR) hm
  rwa [List.map_id] at this

theorem deStruct_obj_rel {f : Nat} {ps : List Field} {deny : Bool} {kvs : List (String × Json)}
    {fs : List (String × Val)} (hreq : ps.all (fun p => match p.state with
        | .required => !optionLikeT σ p.ty | _ => true) = true) (hfl : hasFlatten ps = false)
    (h : deStruct x σ (f + 1) ps deny (.obj kvs) = .ok (.struct fs)) : FieldsRel x σ f ps fs := by
  rw [deStruct_obj x σ hfl] at h
  split at h
  · cases h
  · split at h
    next fs' hm => cases h; exact stepE_fieldsRel x σ hreq hm
    next => cases h

theorem deStruct_arr_rel {f : Nat} {ps : List Field} {deny : Bool} {xs : List Json}
    {fs : List (String × Val)}
    (h : deStruct x σ (f + 1) ps deny (.arr xs) = .ok (.struct fs)) : FieldsRel x σ f ps fs := by
  simp only [deStruct] at h
  split at h
  · cases h
  · split at h
    · cases h
    · split at h
      next fs' hm =>
        cases h
        have := mapM'_fieldsRel_of x σ (π := Prod.fst) (fun pi _ r hr =>
          (memberStep_ok x σ (o := xs[pi.2]?) (R := .error .reject) hr).resolve_left
            fun ⟨_, _, hR⟩ => by cases hR) hm
        rwa [List.map_fst_zip (by simp)] at this
      next => cases h

end TypifyModel.RoundTrip
