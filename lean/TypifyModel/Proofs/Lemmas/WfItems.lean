import TypifyModel.Proofs.Lemmas.WfLemmas
/-! The module with type trees (`Wf.modOf`) against the Render summary and against the IR:
    projection (`modOf_summary`), member types (`modOf_types`), where a member type comes from
    (`allTys_origin`), and heights along by-value members (`byValue_rank`). -/
namespace TypifyModel.Wf
open TypifyModel TypifyModel.Render TypifyModel.SettingsApply

theorem mitemOf_some {tb : DeriveTables} {st : Settings} {σ : Space} {e : Id × Entry} {m : MItem}
    {fns : List String} (h : mitemOf tb st σ e = some (m, fns)) :
    itemOf tb st σ e.2 = some (m.base, fns) ∧ m.id = e.1 ∧ m.ftys = (entryTys σ e.2).1 ∧
      m.vtys = (entryTys σ e.2).2 := by
  unfold mitemOf at h
  cases hi : itemOf tb st σ e.2 with
  | none => rw [hi] at h; cases h
  | some r =>
    obtain ⟨it, fs⟩ := r
    rw [hi] at h
    simp only [Option.some.injEq, Prod.mk.injEq] at h
    obtain ⟨rfl, rfl⟩ := h
    exact ⟨rfl, rfl, rfl, rfl⟩

theorem mitemOf_base (tb : DeriveTables) (st : Settings) (σ : Space) (e : Id × Entry) :
    (mitemOf tb st σ e).map (fun x => (x.1.base, x.2)) = itemOf tb st σ e.2 := by
  unfold mitemOf
  cases hi : itemOf tb st σ e.2 with
  | none => rfl
  | some p => obtain ⟨it, fs⟩ := p; rfl

theorem filterMap_mitemOf (tb : DeriveTables) (st : Settings) (σ : Space) (l : List (Id × Entry)) :
    (l.filterMap (mitemOf tb st σ)).map (fun x => (x.1.base, x.2)) =
      l.filterMap (fun e => itemOf tb st σ e.2) := by
  rw [List.map_filterMap]
  congr 1
  funext e
  exact mitemOf_base tb st σ e

theorem mem_modOf_items {tb : DeriveTables} {st : Settings} {σ : Space} {m : MItem}
    (h : m ∈ (modOf tb st σ).items) :
    ∃ e fns, e ∈ σ.entries ∧ mitemOf tb st σ e = some (m, fns) := by
  simp only [modOf, List.mem_map, List.mem_filterMap] at h
  obtain ⟨⟨m', fns⟩, ⟨e, he, hm⟩, rfl⟩ := h
  exact ⟨e, fns, he, hm⟩

theorem modOf_items_base (tb : DeriveTables) (st : Settings) (σ : Space) :
    (modOf tb st σ).items.map (·.base) = (render tb st σ).items := by
  have h := congrArg (List.map (·.1)) (filterMap_mitemOf tb st σ σ.entries)
  simp only [List.map_map] at h
  simp only [modOf, render, List.map_map]
  exact h

/-- **the module with type trees projects to the summary the M2 correspondence validates** -/
theorem modOf_summary (tb : DeriveTables) (st : Settings) (σ : Space) :
    (modOf tb st σ).summary = render tb st σ := by
  have hb := modOf_items_base tb st σ
  have h2 := congrArg (List.map (·.2)) (filterMap_mitemOf tb st σ σ.entries)
  simp only [List.map_map] at h2
  unfold Mod.summary
  rw [hb]
  simp only [modOf, render]
  congr 2
  congr 1
  exact congrArg List.flatten h2

theorem modOf_names (tb : DeriveTables) (st : Settings) (σ : Space) :
    (modOf tb st σ).items.map (·.base.name) = itemNames σ := by
  have h := congrArg (List.map (·.name)) (modOf_items_base tb st σ)
  simp only [List.map_map] at h
  rw [show (fun m : MItem => m.base.name) = ((fun i : ItemS => i.name) ∘ fun m : MItem => m.base) from rfl, h]
  exact items_are_named_entries tb st σ

theorem variantTys_render (st : Settings) (σ : Space) (en : String) (v : Variant) :
    variantTys (variantS st σ en v).1 = (variantTysT σ v).map (Ty.render st) := by
  unfold variantS variantTysT variantTys
  cases hd : v.details with
  | simple => simp
  | item t => simp [typeIdent_eq_render]
  | tuple ts =>
    cases ts with
    | nil => simp
    | cons a r =>
      cases r with
      | nil => simp [typeIdent_eq_render, Ty.render, Ty.renderList, tupleStr]
      | cons b r' => simp [typeIdent_eq_render]
  | struct ps => simp [fieldS_ty, typeIdent_eq_render]

/-- **the type strings of an item's members are the renderings of its type trees** -/
theorem modOf_types {tb : DeriveTables} {st : Settings} {σ : Space} {m : MItem}
    (h : m ∈ (modOf tb st σ).items) :
    m.base.fields.map (·.ty) = m.ftys.map (Ty.render st) ∧
    m.base.variants.map variantTys = m.vtys.map (List.map (Ty.render st)) := by
  obtain ⟨⟨i, det, ed, im⟩, fns, _, hm⟩ := mem_modOf_items h
  obtain ⟨hi, _, hf, hv⟩ := mitemOf_some hm
  rw [hf, hv]
  obtain ⟨id, base, ftys, vtys⟩ := m
  cases det <;> cases hi <;> simp [entryTys, fieldS_ty, typeIdent_eq_render, variantTys_render]

theorem variantTysT_origin (σ : Space) (v : Variant) (T : Ty) (h : T ∈ variantTysT σ v) :
    (∃ c, c ∈ variantIds v ∧ T = tyOf σ fuel c) ∨ (∃ a, a ∈ variantIds v ∧ T = .tuple [tyOf σ fuel a]) := by
  unfold variantTysT at h
  unfold variantIds
  generalize v.details = d at h ⊢
  cases d with
  | simple => cases h
  | item t => exact Or.inl ⟨t, List.mem_singleton.mpr rfl, List.mem_singleton.mp h⟩
  | tuple ts =>
    dsimp only at h
    split at h
    · exact Or.inr ⟨_, List.mem_singleton.mpr rfl, List.mem_singleton.mp h⟩
    · obtain ⟨c, hc, rfl⟩ := List.mem_map.mp h
      exact Or.inl ⟨c, hc, rfl⟩
  | struct ps =>
    obtain ⟨p, hp, rfl⟩ := List.mem_map.mp h
    exact Or.inl ⟨p.ty, List.mem_map_of_mem hp, rfl⟩

/-- every member type of an item is the tree of a by-value member id of its entry (or the 1-tuple of one) -/
theorem allTys_origin {tb : DeriveTables} {st : Settings} {σ : Space} {e : Id × Entry} {m : MItem}
    {fns : List String} (hm : mitemOf tb st σ e = some (m, fns)) (T : Ty) (hT : T ∈ m.allTys) :
    (∃ c, c ∈ byValIds e.2.details ∧ T = tyOf σ fuel c) ∨
    (∃ a, a ∈ byValIds e.2.details ∧ T = .tuple [tyOf σ fuel a]) := by
  obtain ⟨i, det, ed, im⟩ := e
  cases det <;> cases hm <;>
    simp only [MItem.allTys, entryTys, byValIds, List.append_nil, List.nil_append, List.flatten_nil, List.mem_map,
      List.mem_flatten, List.mem_singleton] at hT ⊢
  case struct n ps deny d =>
    obtain ⟨p, hp, rfl⟩ := hT
    exact Or.inl ⟨p.ty, ⟨p, hp, rfl⟩, rfl⟩
  case newtype n inner c d => exact Or.inl ⟨inner, rfl, hT⟩
  case enum n tag vs deny d bes =>
    obtain ⟨_, ⟨v, hv, rfl⟩, hT⟩ := hT
    exact (variantTysT_origin σ v T hT).imp (fun ⟨c, hc, e⟩ => ⟨c, ⟨_, ⟨v, hv, rfl⟩, hc⟩, e⟩)
      (fun ⟨a, ha, e⟩ => ⟨a, ⟨_, ⟨v, hv, rfl⟩, ha⟩, e⟩)

theorem byValueList_map (g : Id → Ty) (l : List Id) (i : Id) (h : i ∈ Ty.byValueList (l.map g)) :
    ∃ c, c ∈ l ∧ i ∈ (g c).byValue := by
  induction l with
  | nil => simp [Ty.byValueList] at h
  | cons a r ih =>
    simp only [List.map_cons, Ty.byValueList, List.mem_append] at h
    rcases h with h | h
    · exact ⟨a, by simp, h⟩
    · obtain ⟨c, hc, hi⟩ := ih h
      exact ⟨c, List.mem_cons_of_mem _ hc, hi⟩

/-- the height check: every by-value member of every entry lies strictly lower -/
def RankOk (σ : Space) (rank : Id → Nat) : Prop :=
  ∀ e, e ∈ σ.entries → ∀ c, c ∈ byValIds e.2.details → rank c < rank e.1

theorem rankOk_of {σ : Space} (hc : c7_acyclic σ = true) : RankOk σ (rankOf (ranks σ)) := by
  unfold c7_acyclic at hc
  intro e he c' hc'
  have := List.all_eq_true.mp (List.all_eq_true.mp hc e he) c' hc'
  simpa using this

/-- **an item held by value inside the type of id `t` is not higher than `t`** -/
theorem byValue_rank {σ : Space} {rank : Id → Nat} (hr : RankOk σ rank) : ∀ (f : Nat) (t i : Id),
    i ∈ (tyOf σ f t).byValue → rank i ≤ rank t := by
  intro f
  induction f with
  | zero => intro t i h; simp [tyOf, Ty.byValue] at h
  | succ f ih =>
    intro t i h
    unfold tyOf at h
    cases hg : σ.get t with
    | none => simp [hg, Ty.byValue] at h
    | some ent =>
      simp only [hg] at h
      have hm := Space.get_mem hg
      have step : ∀ c, c ∈ byValIds ent.details → rank c < rank t := fun c hc => hr (t, ent) hm c hc
      cases hd : ent.details with
      | enum n tag vs deny d bes => simp [hd, Ty.byValue] at h; subst h; exact Nat.le_refl _
      | struct n ps deny d => simp [hd, Ty.byValue] at h; subst h; exact Nat.le_refl _
      | newtype n inner c d => simp [hd, Ty.byValue] at h; subst h; exact Nat.le_refl _
      | option t' =>
        have hlt : rank t' < rank t := step t' (by simp [hd, byValIds])
        simp only [hd] at h
        split at h
        · exact Nat.le_of_lt (Nat.lt_of_le_of_lt (ih t' i h) hlt)
        · simp only [Ty.byValue] at h
          exact Nat.le_of_lt (Nat.lt_of_le_of_lt (ih t' i h) hlt)
      | array t' n =>
        have hlt : rank t' < rank t := step t' (by simp [hd, byValIds])
        simp only [hd, Ty.byValue] at h
        exact Nat.le_of_lt (Nat.lt_of_le_of_lt (ih t' i h) hlt)
      | tuple ts =>
        simp only [hd, Ty.byValue] at h
        obtain ⟨c, hc, hi⟩ := byValueList_map (tyOf σ f) ts i h
        have hlt : rank c < rank t := step c (by simp [hd, byValIds, hc])
        exact Nat.le_of_lt (Nat.lt_of_le_of_lt (ih c i hi) hlt)
      | map k v =>
        simp only [hd] at h
        split at h <;> simp [Ty.byValue] at h
      | _ => simp [hd, Ty.byValue] at h

end TypifyModel.Wf
