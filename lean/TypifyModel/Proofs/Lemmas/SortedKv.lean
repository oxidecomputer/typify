import TypifyModel.Model.Serde
/-! `insertKv` is insertion into a key-sorted association list (C03: maps). -/
namespace TypifyModel.Serde

abbrev SortedKv (l : List (String × Val)) : Prop := l.Pairwise (fun a b => a.1 < b.1)

theorem insertKv_mem {k : String} {v : Val} : ∀ {l : List (String × Val)} {e : String × Val},
    e ∈ insertKv k v l → e = (k, v) ∨ e ∈ l
  | [], _, h => Or.inl (List.mem_singleton.mp h)
  | (k', v') :: r, e, h => by
    simp only [insertKv] at h
    split at h
    · exact List.mem_cons.mp h
    · split at h
      · exact (List.mem_cons.mp h).imp_right (List.mem_cons_of_mem _)
      · rcases List.mem_cons.mp h with h | h
        · exact Or.inr (h ▸ List.mem_cons_self)
        · exact (insertKv_mem h).imp_right (List.mem_cons_of_mem _)

theorem insertKv_sorted {k : String} {v : Val} : ∀ {l : List (String × Val)},
    SortedKv l → SortedKv (insertKv k v l)
  | [], _ => List.pairwise_singleton _ _
  | (k', v') :: r, h => by
    obtain ⟨hhead, htail⟩ := List.pairwise_cons.mp h
    simp only [insertKv]
    split
    next hlt =>
      refine List.pairwise_cons.mpr ⟨fun e he => ?_, h⟩
      rcases List.mem_cons.mp he with rfl | he
      · exact hlt
      · exact String.lt_trans hlt (hhead e he)
    next hnlt =>
      split
      next heq => exact heq ▸ List.pairwise_cons.mpr ⟨hhead, htail⟩
      next hne =>
        -- the order on strings is total
        have hgt : k' < k := Classical.byContradiction fun hn => hne (String.le_antisymm hn hnlt)
        refine List.pairwise_cons.mpr ⟨fun e he => ?_, insertKv_sorted htail⟩
        rcases insertKv_mem he with rfl | he'
        · exact hgt
        · exact hhead e he'

theorem foldl_insertKv_sorted : ∀ (l : List (String × Val)) (acc : List (String × Val)),
    SortedKv acc → SortedKv (l.foldl (fun acc e => insertKv e.1 e.2 acc) acc)
  | [], _, h => h
  | _ :: r, _, h => foldl_insertKv_sorted r _ (insertKv_sorted h)

theorem foldl_insertKv_mem : ∀ (l acc : List (String × Val)) (e : String × Val),
    e ∈ l.foldl (fun acc e => insertKv e.1 e.2 acc) acc → e ∈ l ∨ e ∈ acc
  | [], _, _, h => Or.inr h
  | a :: r, acc, e, h => by
    rcases foldl_insertKv_mem r _ e h with h' | h'
    · exact Or.inl (List.mem_cons_of_mem _ h')
    · rcases insertKv_mem h' with rfl | h''
      · exact Or.inl List.mem_cons_self
      · exact Or.inr h''

theorem insertKv_last {k : String} {v : Val} : ∀ {l : List (String × Val)},
    (∀ e ∈ l, e.1 < k) → insertKv k v l = l ++ [(k, v)]
  | [], _ => rfl
  | (k', v') :: r, h => by
    have hk : k' < k := h (k', v') List.mem_cons_self
    have h1 : ¬ k < k' := fun hc => String.lt_irrefl k (String.lt_trans hc hk)
    have h2 : ¬ k = k' := fun hc => String.lt_irrefl k (hc ▸ hk)
    simp only [insertKv, h1, h2, if_false, List.cons_append,
      insertKv_last fun e he => h e (List.mem_cons_of_mem _ he)]

/-- re-inserting a sorted list element by element reproduces it -/
theorem foldl_insertKv_id : ∀ (l acc : List (String × Val)),
    SortedKv (acc ++ l) → l.foldl (fun acc e => insertKv e.1 e.2 acc) acc = acc ++ l
  | [], _, _ => (List.append_nil _).symm
  | a :: r, acc, h => by
    have hlast : insertKv a.1 a.2 acc = acc ++ [a] :=
      insertKv_last fun e he => (List.pairwise_append.mp h).2.2 e he a List.mem_cons_self
    have hs : SortedKv ((acc ++ [a]) ++ r) := by rwa [List.append_assoc]
    rw [List.foldl_cons, hlast, foldl_insertKv_id r _ hs, List.append_assoc]
    rfl

end TypifyModel.Serde
