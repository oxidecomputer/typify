import TypifyModel.Proofs.Lemmas.SpaceNames
import TypifyModel.Proofs.Lemmas.SpaceStable
/-! C16 helpers for `split_inv`: structure "with names in place of ids" (`Tree`, `Shape`, `Res`,
    `ShapeOf`, `NamedDef`), a state-free denotation of the fragment (`treeOf`, `shapeOf`, `expected`)
    and the soundness of the conversion with respect to it (`convertLite_sound`): every named entry a
    conversion creates carries one of the `(name, shape)` pairs the schema denotes, whatever the state
    it ran in.  This is the `convB` half of DESIGN.md Appendix C's `convert_spec`, stated for every
    later state that keeps the entries (`Keeps`). -/
set_option autoImplicit false
namespace TypifyModel.Space
open TypifyModel.Names (Str)

inductive Tree where
  | named (n : Str)
  | string
  | integer (n : Str)
  | boolean
  | option (t : Tree)
  | vec (t : Tree)
  | box (t : Tree)
deriving DecidableEq, Repr

/-- what an id resolves to: a named entry is its name, an unnamed one its structure -/
inductive Res (σ : State) : Nat → Tree → Prop
  | named {i : Nat} {e : Details} {n : Str} : σ.entry i = some e → e.name? = some n → Res σ i (.named n)
  | string {i : Nat} : σ.entry i = some .string → Res σ i .string
  | integer {i : Nat} {n : Str} : σ.entry i = some (.integer n) → Res σ i (.integer n)
  | boolean {i : Nat} : σ.entry i = some .boolean → Res σ i .boolean
  | option {i t : Nat} {x : Tree} : σ.entry i = some (.option t) → Res σ t x → Res σ i (.option x)
  | vec {i t : Nat} {x : Tree} : σ.entry i = some (.vec t) → Res σ t x → Res σ i (.vec x)
  | box {i t : Nat} {x : Tree} : σ.entry i = some (.box t) → Res σ t x → Res σ i (.box x)

structure FieldT where
  name : Str
  rename : Option Str
  required : Bool
  ty : Tree
deriving DecidableEq, Repr

/-- the structure of a named entry (the derived flag `bespoke` of enums is not structure) -/
inductive Shape where
  | enum (variants : List (Str × Str))
  | struct (props : List FieldT) (deny : Bool)
  | newtype (inner : Tree)
deriving DecidableEq, Repr

inductive FieldsRes (σ : State) : List Field → List FieldT → Prop
  | nil : FieldsRes σ [] []
  | cons {f : Field} {fs : List Field} {x : Tree} {ts : List FieldT} : Res σ f.ty x → FieldsRes σ fs ts →
      FieldsRes σ (f :: fs) (⟨f.name, f.rename, f.required, x⟩ :: ts)

inductive ShapeOf (σ : State) : Details → Shape → Prop
  | enum {n : Str} {vs : List (Str × Str)} {b : Bool} : ShapeOf σ (.enum n vs b) (.enum vs)
  | struct {n : Str} {ps : List Field} {d : Bool} {ts : List FieldT} : FieldsRes σ ps ts →
      ShapeOf σ (.struct n ps d) (.struct ts d)
  | newtype {n : Str} {t : Nat} {x : Tree} : Res σ t x → ShapeOf σ (.newtype n t) (.newtype x)

/-- `σ` has a named definition `n` of structure `sh` -/
def NamedDef (σ : State) (n : Str) (sh : Shape) : Prop :=
  ∃ i e, σ.entry i = some e ∧ e.name? = some n ∧ ShapeOf σ e sh

/-- the same set of named definitions (names and structures, ids abstracted away) -/
def SameDefs (σ τ : State) : Prop := ∀ n sh, NamedDef σ n sh ↔ NamedDef τ n sh

/-- `π` maps the id of every named entry of `σ` to the id of an entry of `τ` with the same name and
    every shape the former has, and every named entry of `τ` is hit (no injectivity is asked of `π`) -/
def IdIso (π : Nat → Nat) (σ τ : State) : Prop :=
  (∀ i e, σ.entry i = some e → e.name?.isSome →
    ∃ e', τ.entry (π i) = some e' ∧ e'.name? = e.name? ∧ ∀ sh, ShapeOf σ e sh → ShapeOf τ e' sh) ∧
  (∀ j e', τ.entry j = some e' → e'.name?.isSome → ∃ i e, π i = j ∧ σ.entry i = some e ∧ e.name?.isSome)

def Keeps (σ τ : State) : Prop :=
  ∀ i e, σ.entry i = some e → τ.entry i = some e ∨ τ.entry i = some (finalizeEntry e)

theorem Keeps.refl (σ : State) : Keeps σ σ := fun _ _ h => Or.inl h

theorem Keeps.trans {a b c : State} (h1 : Keeps a b) (h2 : Keeps b c) : Keeps a c := by
  intro i e h
  rcases h1 i e h with h | h
  · exact h2 i e h
  · rcases h2 i _ h with h' | h'
    · exact Or.inr h'
    · rw [finalizeEntry_idem] at h'; exact Or.inr h'

theorem Keeps.unnamed {σ τ : State} (hk : Keeps σ τ) {i : Nat} {e : Details} (he : σ.entry i = some e)
    (hn : e.name? = none) : τ.entry i = some e := by
  have := hk i e he
  rwa [finalizeEntry_unnamed hn, or_self] at this

theorem Keeps.named {σ τ : State} (hk : Keeps σ τ) {i : Nat} {e : Details} {n : Str}
    (he : σ.entry i = some e) (hn : e.name? = some n) : ∃ e', τ.entry i = some e' ∧ e'.name? = some n :=
  (hk i e he).elim (fun h => ⟨e, h, hn⟩) (fun h => ⟨_, h, by rw [finalizeEntry_name]; exact hn⟩)

theorem keeps_of_frame {σ σ' : State} (hi : Inv σ) (hf : ∀ i, i < σ.nextId → σ'.entry i = σ.entry i) :
    Keeps σ σ' := fun i e h => Or.inl (by rw [hf i (hi.entry_lt i e h)]; exact h)

theorem keeps_of_ext {σ σ' : State} (hx : Ext σ σ') (hi : Inv σ) : Keeps σ σ' :=
  keeps_of_frame hi hx.entry

theorem Finalized.keeps {σ σ' : State} (hf : Finalized σ σ') : Keeps σ σ' := fun _ _ h => hf.fwd h

theorem keeps_insertDef {σ : State} {nm : Str} {tid : Nat} {ent : Details} (hnone : σ.entry tid = none) :
    Keeps σ (insertDef σ nm tid ent) := by
  intro i e h
  rw [insertDef_entry, if_neg (fun hti => by rw [hti, h] at hnone; cases hnone)]
  exact Or.inl h

theorem Res.keeps {σ τ : State} {i : Nat} {x : Tree} (h : Res σ i x) (hk : Keeps σ τ) : Res τ i x := by
  induction h with
  | named he hn =>
    obtain ⟨e', h, hn'⟩ := hk.named he hn
    exact .named h hn'
  | string he => exact .string (hk.unnamed he rfl)
  | integer he => exact .integer (hk.unnamed he rfl)
  | boolean he => exact .boolean (hk.unnamed he rfl)
  | option he _ ih => exact .option (hk.unnamed he rfl) ih
  | vec he _ ih => exact .vec (hk.unnamed he rfl) ih
  | box he _ ih => exact .box (hk.unnamed he rfl) ih

/-- Two derivations for one id read the same entry, so they end in the same rule: every other
    pairing contradicts the entry (or its having a name). -/
theorem Res.unique {σ : State} {i : Nat} {x y : Tree} (h1 : Res σ i x) (h2 : Res σ i y) : x = y := by
  induction h1 generalizing y with
  | named he hn =>
    cases h2 with
    | named he' hn' => rw [he] at he'; cases he'; rw [hn] at hn'; cases hn'; rfl
    | _ => simp_all; subst he; cases hn
  | string he =>
    cases h2 with
    | string => rfl
    | named he' hn' => rw [he] at he'; cases he'; cases hn'
    | _ => simp_all
  | integer he =>
    cases h2 with
    | integer he' => rw [he] at he'; cases he'; rfl
    | named he' hn' => rw [he] at he'; cases he'; cases hn'
    | _ => simp_all
  | boolean he =>
    cases h2 with
    | boolean => rfl
    | named he' hn' => rw [he] at he'; cases he'; cases hn'
    | _ => simp_all
  | option he _ ih =>
    cases h2 with
    | option he' hr => rw [he] at he'; cases he'; rw [ih hr]
    | named he' hn' => rw [he] at he'; cases he'; cases hn'
    | _ => simp_all
  | vec he _ ih =>
    cases h2 with
    | vec he' hr => rw [he] at he'; cases he'; rw [ih hr]
    | named he' hn' => rw [he] at he'; cases he'; cases hn'
    | _ => simp_all
  | box he _ ih =>
    cases h2 with
    | box he' hr => rw [he] at he'; cases he'; rw [ih hr]
    | named he' hn' => rw [he] at he'; cases he'; cases hn'
    | _ => simp_all

theorem FieldsRes.keeps {σ τ : State} {fs : List Field} {ts : List FieldT} (h : FieldsRes σ fs ts)
    (hk : Keeps σ τ) : FieldsRes τ fs ts := by
  induction h with
  | nil => exact .nil
  | cons hr _ ih => exact .cons (hr.keeps hk) ih

theorem FieldsRes.unique {σ : State} {fs : List Field} {ts ts' : List FieldT} (h1 : FieldsRes σ fs ts)
    (h2 : FieldsRes σ fs ts') : ts = ts' := by
  induction h1 generalizing ts' with
  | nil => cases h2; rfl
  | cons hr _ ih =>
    cases h2 with
    | cons hr' hf' => rw [hr.unique hr', ih hf']

theorem ShapeOf.keeps {σ τ : State} {e : Details} {sh : Shape} (h : ShapeOf σ e sh) (hk : Keeps σ τ) :
    ShapeOf τ e sh ∧ ShapeOf τ (finalizeEntry e) sh := by
  cases h with
  | enum => exact ⟨.enum, .enum⟩
  | struct hf => exact ⟨.struct (hf.keeps hk), .struct (hf.keeps hk)⟩
  | newtype hr => exact ⟨.newtype (hr.keeps hk), .newtype (hr.keeps hk)⟩

theorem ShapeOf.unique {σ : State} {e : Details} {sh sh' : Shape} (h1 : ShapeOf σ e sh) (h2 : ShapeOf σ e sh') :
    sh = sh' := by
  cases h1 with
  | enum => cases h2; rfl
  | struct hf => cases h2 with | struct hf' => rw [hf.unique hf']
  | newtype hr => cases h2 with | newtype hr' => rw [hr.unique hr']

/-- the shape of an entry is the shape of its finalized form -/
theorem ShapeOf.of_finalized {σ : State} {e : Details} {sh : Shape} (h : ShapeOf σ (finalizeEntry e) sh) :
    ShapeOf σ e sh := by
  cases e with
  | enum n vs b => cases h; exact .enum
  | _ => exact h

/-- Option / Vec have an intrinsic default -/
def intrinsicT : Tree → Bool
  | .option _ => true
  | .vec _ => true
  | _ => false

theorem Res.intrinsic {σ : State} {i : Nat} {x : Tree} {d : Details} (h : Res σ i x) (hd : σ.entry i = some d) :
    intrinsicT x = hasIntrinsicDefault (some d) := by
  cases h with
  | named he hn => rw [hd] at he; cases he; cases d <;> first | rfl | cases hn
  | string he => rw [hd] at he; cases he; rfl
  | integer he => rw [hd] at he; cases he; rfl
  | boolean he => rw [hd] at he; cases he; rfl
  | option he _ => rw [hd] at he; cases he; rfl
  | vec he _ => rw [hd] at he; cases he; rfl
  | box he _ => rw [hd] at he; cases he; rfl

/-- the tree of the id `id_for_schema(n, s)` answers; `rn` = the name a `$ref` key resolves to -/
def treeOf (rn : RefKey → Option Str) : Nat → Name → Sch → Option Tree
  | 0, _, _ => none
  | f + 1, n, s =>
    match s with
    | .str _ => some .string
    | .int _ => some (.integer "i64".toList)
    | .bool _ => some .boolean
    | .ref _ k => (rn k).map .named
    | .arr t item => (treeOf rn f (itemName n t) item).map .vec
    | .nullable inner => (treeOf rn f (innerName n) inner).map .option
    | .obj t _ _ _ => (getTypeName n t).map .named
    | .enumStr t _ => (getTypeName n t).map .named

/-- the tree of a property's type: required as is, optional as is when it has an intrinsic default,
    wrapped in `Option` otherwise -/
def propTree (req : List Str) (pn : Str) (x : Tree) : Tree :=
  if pn ∈ req then x else if intrinsicT x then x else .option x

def fieldTOf (rn : RefKey → Option Str) (f : Nat) (base : Option Str) (req : List Str) (p : Str × Sch) :
    Option FieldT :=
  (treeOf rn f (propName base p.1) p.2).map (fun x =>
    { name := (Names.recase p.1 .snake).1, rename := (Names.recase p.1 .snake).2,
      required := decide (p.1 ∈ req), ty := propTree req p.1 x })

def fieldsTOf (rn : RefKey → Option Str) (f : Nat) (base : Option Str) (req : List Str) :
    List (Str × Sch) → Option (List FieldT)
  | [] => some []
  | p :: ps =>
    match fieldTOf rn f base req p, fieldsTOf rn f base req ps with
    | some t, some ts => some (t :: ts)
    | _, _ => none

def insertFieldT (x : FieldT) : List FieldT → List FieldT
  | [] => [x]
  | y :: ys => if Names.strLe x.name y.name then x :: y :: ys else y :: insertFieldT x ys

def sortFieldTs : List FieldT → List FieldT
  | [] => []
  | x :: xs => insertFieldT x (sortFieldTs xs)

/-- the shape of the named entry `convertLite _ n s` answers (objects and string enums) -/
def shapeOf (rn : RefKey → Option Str) : Nat → Name → Sch → Option Shape
  | 0, _, _ => none
  | f + 1, n, s =>
    match s with
    | .obj t props req closed =>
      (fieldsTOf rn f (getTypeName n t) req props).map (fun ts => .struct (sortFieldTs ts) closed)
    | .enumStr _ vals =>
      match Names.variantNames vals with
      | .ok idents => some (.enum (vals.zip idents))
      | .panic => none
    | _ => none

/-- the `(name, shape)` of the entry a sub-schema is assigned, when it is a named one -/
def own (rn : RefKey → Option Str) (f : Nat) (n : Name) (s : Sch) : List (Str × Shape) :=
  match topName n s, shapeOf rn f n s with
  | some nm, some sh => [(nm, sh)]
  | _, _ => []

/-- the `(name, shape)` pairs of the inline named types `convertLite f n s` can create -/
def expected (rn : RefKey → Option Str) : Nat → Name → Sch → List (Str × Shape)
  | 0, _, _ => []
  | f + 1, n, s =>
    match s with
    | .arr t item => own rn f (itemName n t) item ++ expected rn f (itemName n t) item
    | .nullable inner => own rn f (innerName n) inner ++ expected rn f (innerName n) inner
    | .obj t props _ _ =>
      props.flatMap (fun p => own rn f (propName (getTypeName n t) p.1) p.2
                              ++ expected rn f (propName (getTypeName n t) p.1) p.2)
    | _ => []

/-- every `$ref` key bound in `refs` leads, in `τ`, to an entry named `rn key` -/
def RefNamed (rn : RefKey → Option Str) (refs : List (RefKey × Nat)) (τ : State) : Prop :=
  ∀ k t, alookup refs k = some t → ∃ d nm, τ.entry t = some d ∧ d.name? = some nm ∧ rn k = some nm

theorem named_not_intrinsic {d : Details} {nm : Str} (h : d.name? = some nm) :
    hasIntrinsicDefault (some d) = false := by
  cases d <;> first | rfl | cases h

theorem assignType_entry {e : Details} {σ : State} (hi : Inv σ) (hr : e.refTarget? = none) :
    ∃ d, (assignType e σ).2.entry (assignType e σ).1 = some d ∧ (e.name? = none → d = e) ∧
      (∀ nm, e.name? = some nm → d.name? = some nm) := by
  have hc := assignType_cases e σ
  generalize assignType e σ = p at hc ⊢
  cases hc with
  | ref t ht => rw [hr] at ht; cases ht
  | nameHit n i _ hn hi' =>
    obtain ⟨d, hd, hdn⟩ := hi.name_ok n i hi'
    exact ⟨d, hd, fun h => (by rw [hn] at h; cases h), fun nm h => by rw [hn] at h; cases h; exact hdn⟩
  | typeHit i _ hn hi' => exact ⟨e, (hi.type_ok e i hi').1, fun _ => rfl, fun nm h => h⟩
  | new => exact ⟨e, by rw [alloc_entry, if_pos rfl], fun _ => rfl, fun nm h => h⟩

theorem assignType_new {e : Details} {σ : State} (hi : Inv σ) {i : Nat} {d : Details}
    (hd : (assignType e σ).2.entry i = some d) (hge : σ.nextId ≤ i) : d = e := by
  have hc := assignType_cases e σ
  generalize assignType e σ = p at hc hd
  have hnone := hi.entry_none hge
  cases hc with
  | new =>
    rw [alloc_entry] at hd
    split at hd
    · cases hd; rfl
    · rw [hnone] at hd; cases hd
  | _ => rw [hnone] at hd; cases hd

theorem tree_of_unnamed {e : Details} {σ' τ : State} {x : Tree} (hi : Inv σ') (hr : e.refTarget? = none)
    (hn : e.name? = none) (hk : Keeps (assignType e σ').2 τ)
    (hres : τ.entry (assignType e σ').1 = some e → Res τ (assignType e σ').1 x)
    (hint : intrinsicT x = hasIntrinsicDefault (some e)) :
    Res τ (assignType e σ').1 x ∧
      intrinsicT x = hasIntrinsicDefault ((assignType e σ').2.entry (assignType e σ').1) := by
  obtain ⟨d, hd, hde, _⟩ := assignType_entry (σ := σ') hi hr
  have : d = e := hde hn
  subst this
  exact ⟨hres (hk.unnamed hd hn), by rw [hd]; exact hint⟩

theorem tree_of_named {e : Details} {σ' τ : State} {nm : Str} (hi : Inv σ') (hr : e.refTarget? = none)
    (hn : e.name? = some nm) (hk : Keeps (assignType e σ').2 τ) :
    Res τ (assignType e σ').1 (.named nm) ∧
      intrinsicT (.named nm) = hasIntrinsicDefault ((assignType e σ').2.entry (assignType e σ').1) := by
  obtain ⟨d, hd, _, hdn⟩ := assignType_entry (σ := σ') hi hr
  have hdn' := hdn nm hn
  obtain ⟨d', h, hn'⟩ := hk.named hd hdn'
  exact ⟨.named h hn', by rw [hd, named_not_intrinsic hdn']; rfl⟩

/-! ### sorting commutes with resolution -/

theorem FieldsRes.insert {τ : State} {f : Field} {x : Tree} (hr : Res τ f.ty x) :
    ∀ {fs : List Field} {ts : List FieldT}, FieldsRes τ fs ts →
      FieldsRes τ (insertField f fs) (insertFieldT ⟨f.name, f.rename, f.required, x⟩ ts) := by
  intro fs ts h
  induction h with
  | nil => exact .cons hr .nil
  | cons hr' hf ih =>
    simp only [insertField, insertFieldT]
    split
    · exact .cons hr (.cons hr' hf)
    · exact .cons hr' ih

theorem FieldsRes.sort {τ : State} {fs : List Field} {ts : List FieldT} (h : FieldsRes τ fs ts) :
    FieldsRes τ (sortFields fs) (sortFieldTs ts) := by
  induction h with
  | nil => exact .nil
  | cons hr _ ih => exact FieldsRes.insert hr ih

/-- what a successful `convertLite f n s σ = (e, σ')` guarantees in every later state `τ` that keeps
    the entries and resolves the `$ref` keys to entries named by `rn` -/
structure Sound (rn : RefKey → Option Str) (f : Nat) (n : Name) (s : Sch) (σ σ' : State) (e : Details) :
    Prop where
  /-- the id `e` is assigned resolves to the denoted tree -/
  tree : ∀ τ, Keeps (assignType e σ').2 τ → RefNamed rn σ.refToId τ →
    ∃ x, treeOf rn f n s = some x ∧ Res τ (assignType e σ').1 x ∧
      intrinsicT x = hasIntrinsicDefault ((assignType e σ').2.entry (assignType e σ').1)
  /-- a named result has the denoted shape -/
  shape : ∀ nm, e.name? = some nm → ∀ τ, Keeps σ' τ → RefNamed rn σ.refToId τ →
    ∃ sh, shapeOf rn f n s = some sh ∧ ShapeOf τ e sh
  /-- every named entry created on the way is one of the denoted inline definitions -/
  new : ∀ i d m, σ.nextId ≤ i → σ'.entry i = some d → d.name? = some m → ∀ τ, Keeps σ' τ →
    RefNamed rn σ.refToId τ → ∃ sh, (m, sh) ∈ expected rn f n s ∧ ShapeOf τ d sh

/-- every named entry `σ'` holds at an id from `lo` on is, in every later state that resolves the `$ref`
    keys `refs`, one of the definitions `L` -/
def NewIn (rn : RefKey → Option Str) (L : List (Str × Shape)) (lo : Nat) (refs : List (RefKey × Nat))
    (σ' : State) : Prop :=
  ∀ i d m, lo ≤ i → σ'.entry i = some d → d.name? = some m → ∀ τ, Keeps σ' τ →
    RefNamed rn refs τ → ∃ sh, (m, sh) ∈ L ∧ ShapeOf τ d sh

section newIn
variable {rn : RefKey → Option Str} {L L' : List (Str × Shape)} {lo : Nat} {refs : List (RefKey × Nat)}
  {σ1 σ2 : State}

theorem NewIn.refl (hi : Inv σ1) : NewIn rn L σ1.nextId refs σ1 :=
  fun i d m hge hd => by rw [hi.entry_none hge] at hd; cases hd

theorem NewIn.mono (h : NewIn rn L lo refs σ1) (hsub : ∀ x, x ∈ L → x ∈ L') : NewIn rn L' lo refs σ1 :=
  fun i d m hge hd hm τ hk hrn =>
    let ⟨sh, h1, h2⟩ := h i d m hge hd hm τ hk hrn
    ⟨sh, hsub _ h1, h2⟩

/-- what is new after two stages is new in the first (and kept by the second) or new in the second -/
theorem NewIn.append (h1 : NewIn rn L lo refs σ1) (h2 : NewIn rn L' σ1.nextId refs σ2)
    (hent : ∀ i, i < σ1.nextId → σ2.entry i = σ1.entry i) (hk12 : Keeps σ1 σ2) :
    NewIn rn (L ++ L') lo refs σ2 := by
  intro i d m hge hd hm τ hk hrn
  by_cases hlt : i < σ1.nextId
  · rw [hent i hlt] at hd
    obtain ⟨sh, a, b⟩ := h1 i d m hge hd hm τ (hk12.trans hk) hrn
    exact ⟨sh, List.mem_append_left _ a, b⟩
  · obtain ⟨sh, a, b⟩ := h2 i d m (Nat.le_of_not_lt hlt) hd hm τ hk hrn
    exact ⟨sh, List.mem_append_right _ a, b⟩

theorem NewIn.append_ext (h1 : NewIn rn L lo refs σ1) (h2 : NewIn rn L' σ1.nextId refs σ2)
    (hx : Ext σ1 σ2) (i1 : Inv σ1) : NewIn rn (L ++ L') lo refs σ2 :=
  h1.append h2 hx.entry (keeps_of_ext hx i1)

theorem NewIn.assign_unnamed (h : NewIn rn L lo refs σ1) (i1 : Inv σ1) {e : Details}
    (hn : e.name? = none) : NewIn rn L lo refs (assignType e σ1).2 := by
  have hnone : NewIn rn [] σ1.nextId refs (assignType e σ1).2 := fun i d m hge hd hm => by
    rw [assignType_new i1 hd hge, hn] at hm; cases hm
  exact (h.append_ext hnone (assignType_ext e σ1) i1).mono (fun x hx => by simpa using hx)

end newIn

theorem Sound.assign {rn : RefKey → Option Str} {f : Nat} {n : Name} {s : Sch} {σ σ1 : State} {e : Details}
    (hs : Sound rn f n s σ σ1 e) (hc : convertLite f n s σ = .ok (e, σ1)) (hi : Inv σ) :
    NewIn rn (own rn f n s ++ expected rn f n s) σ.nextId σ.refToId (assignType e σ1).2 := by
  obtain ⟨i1, _⟩ := convertLite_inv _ _ _ _ _ _ hc hi
  have hx2 := assignType_ext e σ1
  have hown : NewIn rn (own rn f n s) σ1.nextId σ.refToId (assignType e σ1).2 := by
    intro i d m hge hd hm τ hk hrn
    have := assignType_new i1 hd hge
    subst this
    obtain ⟨sh, h1, h2⟩ := hs.shape m hm τ ((keeps_of_ext hx2 i1).trans hk) hrn
    have : topName n s = some m := by rw [← convertLite_name hc]; exact hm
    exact ⟨sh, by simp [own, this, h1], h2⟩
  exact (NewIn.append_ext hs.new hown hx2 i1).mono
    (fun x h => List.mem_append.mpr (List.mem_append.mp h).symm)

theorem propResult_sound {req : List Str} {pn : Str} {p : Nat × State} {fld : Field} {σ' τ : State} {x : Tree}
    (h : propResult req pn p = .ok (fld, σ')) (hi : Inv p.2)
    (hk : Keeps σ' τ) (hres : Res τ p.1 x) (hint : intrinsicT x = hasIntrinsicDefault (p.2.entry p.1)) :
    Res τ fld.ty (propTree req pn x) := by
  unfold propTree
  rcases (propResult_cases h).2 with ⟨hkeep, hq⟩ | ⟨⟨hreq, hin⟩, hq⟩
  · subst hq
    split
    · exact hres
    · rw [hint, hkeep.resolve_left ‹_›]; exact hres
  · rw [if_neg hreq, hint, hin]
    have h1 : fld.ty = _ := congrArg Prod.fst hq
    have h2 : σ' = _ := congrArg Prod.snd hq
    rw [h2] at hk
    rw [h1]
    exact (tree_of_unnamed (e := .option p.1) (x := .option x) hi rfl rfl hk
      (fun he => .option he hres) rfl).1

/-- **soundness of the conversion** with respect to the state-free denotation -/
theorem convertLite_sound (rn : RefKey → Option Str) : ∀ (f : Nat) (n : Name) (s : Sch) (σ σ' : State)
    (e : Details), convertLite f n s σ = .ok (e, σ') → Inv σ → Sound rn f n s σ σ' e := by
  apply convertLite_induct (C := fun f n s σ e σ' => Inv σ → Sound rn f n s σ σ' e)
    (M := fun f base req ps σ fs σ' => Inv σ → Inv σ' ∧
      (∀ τ, Keeps σ' τ → RefNamed rn σ.refToId τ →
        ∃ ts, fieldsTOf rn f base req ps = some ts ∧ FieldsRes τ fs ts) ∧
      NewIn rn (ps.flatMap (fun p => own rn f (propName base p.1) p.2
        ++ expected rn f (propName base p.1) p.2)) σ.nextId σ.refToId σ')
  case str =>
    exact fun hi => ⟨fun τ hk _ => ⟨.string, rfl, tree_of_unnamed hi rfl rfl hk (fun he => .string he) rfl⟩,
      fun nm hn => (nomatch hn), NewIn.refl hi⟩
  case int =>
    exact fun hi => ⟨fun τ hk _ => ⟨.integer "i64".toList, rfl,
      tree_of_unnamed hi rfl rfl hk (fun he => .integer he) rfl⟩, fun nm hn => (nomatch hn), NewIn.refl hi⟩
  case bool =>
    exact fun hi => ⟨fun τ hk _ => ⟨.boolean, rfl, tree_of_unnamed hi rfl rfl hk (fun he => .boolean he) rfl⟩,
      fun nm hn => (nomatch hn), NewIn.refl hi⟩
  case ref =>
    intro _ _ _ k σ id hk' hi
    refine ⟨fun τ hk hrn => ?_, fun nm hn => (nomatch hn), NewIn.refl hi⟩
    -- a reference passes through `assign_type`: the id is the definition's, which holds a named entry
    obtain ⟨d, nm, hd, hdn, hr⟩ := hrn k id hk'
    rw [assignType_of_ref σ (e := .reference id) rfl] at hk ⊢
    refine ⟨.named nm, by simp [treeOf, hr], .named hd hdn, ?_⟩
    cases hσ : σ.entry id with
    | none => rfl
    | some d0 =>
      have : d0.name? = some nm := by
        rcases hk _ _ hσ with h1 | h1 <;> rw [hd] at h1 <;> cases h1
        · exact hdn
        · rw [← finalizeEntry_name]; exact hdn
      exact (named_not_intrinsic this).symm
  case arr =>
    refine fun hc ih hi => ?_
    obtain ⟨i1, hids⟩ := convertLite_inv _ _ _ _ _ _ hc hi
    obtain ⟨i2, _⟩ := assignType_inv i1 hids
    refine ⟨fun τ hk hrn => ?_, fun nm hn => (nomatch hn), (ih hi).assign hc hi⟩
    obtain ⟨x, hx, hres, _⟩ := (ih hi).tree τ ((keeps_of_ext (assignType_ext _ _) i2).trans hk) hrn
    exact ⟨.vec x, by simp [treeOf, hx], tree_of_unnamed i2 rfl rfl hk (fun he => .vec he hres) rfl⟩
  case nullable =>
    refine fun hc ih hi => ?_
    obtain ⟨i1, hids⟩ := convertLite_inv _ _ _ _ _ _ hc hi
    obtain ⟨i2, _⟩ := assignType_inv i1 hids
    refine ⟨fun τ hk hrn => ?_, fun nm hn => (nomatch hn), (ih hi).assign hc hi⟩
    obtain ⟨x, hx, hres, _⟩ := (ih hi).tree τ ((keeps_of_ext (assignType_ext _ _) i2).trans hk) hrn
    exact ⟨.option x, by simp [treeOf, hx], tree_of_unnamed i2 rfl rfl hk (fun he => .option he hres) rfl⟩
  case obj =>
    intro _ _ _ _ _ closed _ _ _ nm _ ih hnm hi
    obtain ⟨i1, hfields, hnew⟩ := ih hi
    refine ⟨fun τ hk _ => ⟨.named nm, by simp [treeOf, hnm], tree_of_named i1 rfl rfl hk⟩,
      fun _ _ τ hk hrn => ?_, hnew⟩
    obtain ⟨ts, hts, hfr⟩ := hfields τ hk hrn
    exact ⟨.struct (sortFieldTs ts) closed, by simp [shapeOf, hts], .struct hfr.sort⟩
  case enumStr =>
    intro _ _ _ vals _ idents nm _ hv hnm hi
    exact ⟨fun τ hk _ => ⟨.named nm, by simp [treeOf, hnm], tree_of_named hi rfl rfl hk⟩,
      fun _ _ τ _ _ => ⟨.enum (vals.zip idents), by simp [shapeOf, hv], .enum⟩, NewIn.refl hi⟩
  case nil => exact fun hi => ⟨hi, fun τ _ _ => ⟨[], rfl, .nil⟩, NewIn.refl hi⟩
  case cons =>
    intro f base req pn s ps σ e σ1 fld σ2 fs σ3 hc ih hprop ht iht hi
    have hs := ih hi
    obtain ⟨i1, hids⟩ := convertLite_inv _ _ _ _ _ _ hc hi
    obtain ⟨i2, _, i3⟩ := property_inv hprop i1 hids
    obtain ⟨i4, hfields, hnew⟩ := iht i3
    have hxa := (convertLite_ext _ _ _ _ _ _ hc).trans (assignType_ext e σ1)
    have hxp := propResult_ext hprop
    have hx3 := structMembers_ext ht
    have hk23 : Keeps σ2 σ3 := keeps_of_ext hx3 i3
    refine ⟨i4, fun τ hk hrn => ?_, ?_⟩
    · obtain ⟨x, hx, hres, hint⟩ := hs.tree τ ((keeps_of_ext hxp i2).trans (hk23.trans hk)) hrn
      have hfld := propResult_sound hprop i2 (hk23.trans hk) hres hint
      obtain ⟨ts, hts, hfr⟩ := hfields τ hk (by rw [(hxa.trans hxp).ref]; exact hrn)
      obtain ⟨a, b, c⟩ := (propResult_cases hprop).1
      exact ⟨_ :: ts, by simp only [fieldsTOf, fieldTOf, hx, hts, Option.map_some, ← a, ← b, ← c],
        .cons hfld hfr⟩
    · -- `struct_property` wraps the id at most into an (unnamed) `Option`
      have hnewp : NewIn rn (own rn f (propName base pn) s ++ expected rn f (propName base pn) s)
          σ.nextId σ.refToId σ2 := by
        rcases (propResult_cases hprop).2 with ⟨_, hq⟩ | ⟨_, hq⟩
        · have h2 : σ2 = _ := congrArg Prod.snd hq
          rw [h2]; exact hs.assign hc hi
        · have h2 : σ2 = _ := congrArg Prod.snd hq
          rw [h2]; exact (hs.assign hc hi).assign_unnamed i2 rfl
      rw [List.flatMap_cons]
      exact hnewp.append_ext ((hxa.trans hxp).ref ▸ hnew) hx3 i3

theorem own_name {rn : RefKey → Option Str} {f : Nat} {n : Name} {s : Sch} {m : Str} {sh : Shape}
    (h : (m, sh) ∈ own rn f n s) : topName n s = some m := by
  unfold own at h
  split at h
  · rename_i nm sh' h1 _
    simp only [List.mem_singleton, Prod.mk.injEq] at h
    rw [h.1]; exact h1
  · simp at h

theorem expected_names (rn : RefKey → Option Str) : ∀ (f : Nat) (n : Name) (s : Sch) (m : Str) (sh : Shape),
    (m, sh) ∈ expected rn f n s → m ∈ assigned f n s := by
  intro f
  induction f with
  | zero => intro n s m sh h; simp [expected] at h
  | succ f ih =>
    -- a sub-schema contributes `own ++ expected` on one side, `topName ++ assigned` on the other
    have sub : ∀ n s m sh, (m, sh) ∈ own rn f n s ++ expected rn f n s →
        m ∈ (topName n s).toList ++ assigned f n s := fun n s m sh h =>
      (List.mem_append.mp h).elim (fun h => List.mem_append_left _ (by rw [own_name h]; simp))
        (fun h => List.mem_append_right _ (ih _ _ _ _ h))
    intro n s m sh h
    cases s with
    | arr t item => exact sub _ _ _ _ h
    | nullable inner => exact sub _ _ _ _ h
    | obj t props req closed =>
      obtain ⟨p, hp, h⟩ := List.mem_flatMap.mp h
      exact List.mem_flatMap.mpr ⟨p, hp, sub _ _ _ _ h⟩
    | _ => simp [expected] at h

end TypifyModel.Space
