import TypifyModel.Model.WireEq
import TypifyModel.Proofs.Lemmas.ConvLemmas
import TypifyModel.Proofs.Lemmas.SerdeBasics
import TypifyModel.Proofs.Lemmas.SortedKv
/-! List combinators of the Serde model: what a successful run says about the elements, and when a run is not
    rejected. -/
namespace TypifyModel.WireEq
open TypifyModel TypifyModel.Serde
open TypifyModel.Conv (NR_ok NR_err)

/-- "the model does not reject": ok, or a non-verdict (out of fuel / outside the modelled fragment) -/
abbrev NR {α : Type} (r : Except E α) : Prop := r ≠ .error .reject

theorem mapM'_ok_mem {α β : Type} {g : α → Except E β} :
    ∀ {l : List α} {bs : List β}, mapM' g l = .ok bs → ∀ b ∈ bs, ∃ a ∈ l, g a = .ok b := by
  intro l
  induction l with
  | nil => intro bs h b hb; cases h; cases hb
  | cons a r ih =>
    intro bs h b hb
    obtain ⟨b0, bs', hg, hr, rfl⟩ := okCons_inv h
    rcases List.mem_cons.mp hb with rfl | hb
    · exact ⟨a, List.mem_cons_self, hg⟩
    · obtain ⟨a', ha', hga'⟩ := ih hr b hb
      exact ⟨a', List.mem_cons_of_mem a ha', hga'⟩

theorem zipM_ok_cons {g : Id → Json → Except E Val} {t : Id} {ts : List Id} {j : Json} {js : List Json} {vs : List Val}
    (h : zipM g (t :: ts) (j :: js) = .ok vs) : ∃ v vs', g t j = .ok v ∧ zipM g ts js = .ok vs' ∧ vs = v :: vs' := by
  simp only [zipM] at h
  split at h
  · cases h
  · split at h <;> cases h
    exact ⟨_, _, by assumption, by assumption, rfl⟩

theorem zipM_ok_zipTy {g : Id → Json → Except E Val} {ty : Id → Val → Bool}
    (hg : ∀ t j v, g t j = .ok v → ty t v = true) :
    ∀ {ts : List Id} {js : List Json} {vs : List Val}, zipM g ts js = .ok vs → zipTy ty ts vs = true := by
  intro ts
  induction ts with
  | nil => intro js vs h; cases js <;> cases h; rfl
  | cons t r ih =>
    intro js vs h
    cases js with
    | nil => cases h
    | cons j js' =>
      obtain ⟨v, vs', h1, h2, rfl⟩ := zipM_ok_cons h
      simp only [zipTy, hg t j v h1, ih h2, Bool.and_self]

theorem zipM_cons_NR {g : Id → Json → Except E Val} {t : Id} {ts : List Id} {j : Json} {js : List Json}
    (h1 : NR (g t j)) (h2 : NR (zipM g ts js)) : NR (zipM g (t :: ts) (j :: js)) := by
  simp only [zipM]
  split
  · exact NR_err h1 (by assumption)
  · split
    · exact NR_err h2 (by assumption)
    · exact NR_ok

theorem zipM_NR {g : Id → Json → Except E Val} :
    ∀ {ts : List Id} {xs : List Json}, ts.length = xs.length →
      (∀ (n : Nat) t j, ts[n]? = some t → xs[n]? = some j → NR (g t j)) → NR (zipM g ts xs) :=
  Conv.zipM_NR

theorem nodupB_find_gen {α : Type} (key : α → String) {l : List α} :
    nodupB (l.map key) = true → ∀ a ∈ l, l.find? (fun q => key q == key a) = some a := by
  induction l with
  | nil => intro _ a ha; cases ha
  | cons b r ih =>
    intro h a ha
    simp only [List.map_cons, nodupB, Bool.and_eq_true, Bool.not_eq_true', List.contains_eq_mem,
      decide_eq_false_iff_not, List.mem_map, not_exists, not_and] at h
    rcases List.mem_cons.mp ha with rfl | ha
    · exact List.find?_cons_of_pos (beq_self_eq_true _)
    · have hne : (key b == key a) = false := beq_false_of_ne fun heq => h.1 a ha heq.symm
      simp only [List.find?_cons, hne]
      exact ih h.2 a ha

theorem lookup_erase_ne {kvs : List (String × Json)} {k r : String} (hne : r ≠ k) :
    Json.lookup (Json.erase kvs k) r = Json.lookup kvs r :=
  Json.lookup_erase_ne hne

end TypifyModel.WireEq
