import TypifyModel.Proofs.Lemmas.MergeValid
/-! Semantic specification of a merge result and the lemmas for the non-object bodies. -/
namespace TypifyModel.Merge
open TypifyModel TypifyModel.Validate

section
variable (x : Ext) (d : Doc)

/-- `m` is the intersection of `a` and `b`: whenever both have a verdict on an instance, `m` has the
    verdict "both" (at some fuel; by `valid_det` at every fuel where it has one) -/
def Inter (m a b : Schema) : Prop :=
  ∀ (v : Json) (f2 f3 : Nat) (ba bb : Bool), valid x d f2 a v = some ba → valid x d f3 b v = some bb →
    ∃ f1, valid x d f1 m v = some (ba && bb)

def Disj (a b : Schema) : Prop :=
  ∀ (v : Json) (f2 f3 : Nat), ¬ (valid x d f2 a v = some true ∧ valid x d f3 b v = some true)

/-- what a gap-free answer of the model means -/
def Spec (r : MR) (a b : Schema) : Prop :=
  match r with
  | .ok m [] => Inter x d m a b
  | .never [] => Disj x d a b
  | _ => True

abbrev RecOK (rec : Schema → Schema → MR) : Prop := ∀ a b, Spec x d (rec a b) a b
end

variable {x : Ext} {d : Doc}

theorem Inter.symm {m a b : Schema} (h : Inter x d m a b) : Inter x d m b a :=
  fun v f2 f3 ba bb h2 h3 => Bool.and_comm bb ba ▸ h v f3 f2 bb ba h3 h2

theorem Disj.symm {a b : Schema} (h : Disj x d a b) : Disj x d b a :=
  fun v f2 f3 hh => h v f3 f2 ⟨hh.2, hh.1⟩

theorem spec_ok_nil {m a b : Schema} : Spec x d (.ok m []) a b = Inter x d m a b := rfl
theorem spec_never_nil {a b : Schema} : Spec x d (.never []) a b = Disj x d a b := rfl

theorem Spec.of_ok {m a b : Schema} {g : List Gap} (h : g = [] → Inter x d m a b) : Spec x d (.ok m g) a b := by
  cases g with
  | nil => exact h rfl
  | cons _ _ => trivial

theorem Spec.of_never {a b : Schema} {g : List Gap} (h : g = [] → Disj x d a b) : Spec x d (.never g) a b := by
  cases g with
  | nil => exact h rfl
  | cons _ _ => trivial

theorem Spec.symm {r : MR} {a b : Schema} (h : Spec x d r a b) : Spec x d r b a := by
  cases r with
  | ok m g => exact .of_ok fun hg => by subst hg; exact Inter.symm h
  | never g => exact .of_never fun hg => by subst hg; exact Disj.symm h
  | unsup => trivial

theorem Inter_self (a : Schema) : Inter x d a a a := by
  intro v f2 f3 ba bb h2 h3
  cases valid_det x d h2 h3
  exact ⟨f2, by rw [Bool.and_self]; exact h2⟩

theorem Inter_right {a b : Schema}
    (h : ∀ v f2 f3 ba, valid x d f2 a v = some ba → valid x d f3 b v = some true → ba = true) : Inter x d b a b := by
  intro v f2 f3 ba bb h2 h3
  refine ⟨f3, ?_⟩
  cases bb with
  | false => rw [Bool.and_false]; exact h3
  | true => rw [h v f2 f3 ba h2 h3]; exact h3

theorem false_of_not_both {ba bb : Bool} (h : ¬ (ba = true ∧ bb = true)) : (ba && bb) = false := by
  cases ba <;> cases bb <;> simp at h ⊢

theorem and_and_and_comm (a b c d : Bool) : ((a && b) && (c && d)) = ((a && c) && (b && d)) := by
  cases a <;> cases b <;> cases c <;> rfl

theorem ne_zero_of_valid {f : Nat} {s : Schema} {v : Json} {r : Bool} (h : valid x d f s v = some r) :
    ∃ f', f = f' + 1 := by
  cases f with
  | zero => rw [valid_zero] at h; cases h
  | succ f' => exact ⟨f', rfl⟩

theorem isAny_eq {s : Schema} (h : isAny s = true) : s = .any := by
  cases s <;> first | rfl | cases h

theorem isNever_eq {s : Schema} (h : isNever s = true) : s = .never := by
  cases s <;> first | rfl | cases h

theorem valid_any_true {f : Nat} {v : Json} {b : Bool} (h : valid x d f .any v = some b) : b = true := by
  obtain ⟨f', rfl⟩ := ne_zero_of_valid h
  rw [valid_any] at h
  exact (Option.some.inj h).symm

theorem Inter_any_left (b : Schema) : Inter x d b .any b :=
  Inter_right fun _ _ _ _ h2 _ => valid_any_true h2

theorem Disj_never_left (b : Schema) : Disj x d .never b := by
  intro v f2 f3 ⟨h2, _⟩
  obtain ⟨f', rfl⟩ := ne_zero_of_valid h2
  cases h2

theorem Inter_never {a b : Schema} (h : Disj x d a b) : Inter x d .never a b := by
  intro v f2 f3 ba bb h2 h3
  refine ⟨1, congrArg some (false_of_not_both ?_).symm⟩
  rintro ⟨rfl, rfl⟩
  exact h v f2 f3 ⟨h2, h3⟩

/-- an integer is a `number` as well -/
def tyJ : Json → Ty
  | .null => .null | .bool _ => .boolean | .int _ => .integer | .flt _ _ => .number
  | .str _ => .string | .arr _ => .array | .obj _ => .object

theorem jsonTy_eq {t : Ty} {v : Json} (h : jsonTy t v = true) : t = tyJ v ∨ t = .number ∧ tyJ v = .integer := by
  cases t <;> cases v <;> cases h <;> first | exact .inl rfl | exact .inr ⟨rfl, rfl⟩

theorem disjointTy_sound {ta tb : Ty} {v : Json} (h : disjointTy ta tb = true) :
    ¬ (jsonTy ta v = true ∧ jsonTy tb v = true) := by
  intro ⟨ha, hb⟩
  rcases jsonTy_eq ha with rfl | ⟨rfl, hv⟩ <;> rcases jsonTy_eq hb with rfl | ⟨rfl, hv'⟩
  · rw [disjointTy, bne_self_eq_false] at h; cases h
  · rw [hv'] at h; cases h
  · rw [hv] at h; cases h
  · cases h

theorem valid_ty {t : Schema} {ty : Ty} (ht : tyOf t = some ty) {f : Nat} {v : Json}
    (h : valid x d f t v = some true) : jsonTy ty v = true := by
  obtain ⟨f', rfl⟩ := ne_zero_of_valid h
  cases t <;> cases ht <;> cases v <;> first | exact rfl | cases h

/-- last arm of `mergeTyped` (`merge_so_instance_type`) -/
theorem spec_default (a b : Schema) :
    Spec x d (match tyOf a, tyOf b with
      | some ta, some tb => if disjointTy ta tb then MR.never [] else MR.unsup
      | _, _ => MR.unsup) a b := by
  split
  · rename_i ta tb ha hb
    split
    · rename_i hd
      exact fun v f2 f3 hh => disjointTy_sound hd ⟨valid_ty ha hh.1, valid_ty hb hh.2⟩
    · trivial
  · trivial

theorem filter_any_beq (vs : List Json) (p : Json → Bool) (v : Json) :
    (vs.filter p).any (· == v) = (vs.any (· == v) && p v) := by
  apply Bool.eq_iff_iff.mpr
  simp only [Bool.and_eq_true, any_beq_iff, List.mem_filter]

theorem enum_inter {vs : List Json} {t : Schema} {p : Json → Bool}
    (hp : ∀ f v, valid x d (f + 1) t v = some (p v)) :
    Inter x d (.enumVals (vs.filter p)) (.enumVals vs) t := by
  intro v f2 f3 ba bb h2 h3
  obtain ⟨f2', rfl⟩ := ne_zero_of_valid h2
  obtain ⟨f3', rfl⟩ := ne_zero_of_valid h3
  rw [hp] at h3
  cases h2; cases h3
  exact ⟨1, congrArg some (filter_any_beq vs p v)⟩

theorem enum_disj {vs : List Json} {t : Schema} {p : Json → Bool}
    (hp : ∀ f v, valid x d f t v = some true → p v = true)
    (he : (vs.filter p).isEmpty = true) : Disj x d (.enumVals vs) t := by
  intro v f2 f3 ⟨h2, h3⟩
  obtain ⟨f2', rfl⟩ := ne_zero_of_valid h2
  have : v ∈ vs.filter p := List.mem_filter.mpr ⟨any_beq_iff.mp (Option.some.inj h2), hp f3 v h3⟩
  rw [List.isEmpty_iff.mp he] at this
  cases this

theorem fuelFree_true {t : Schema} {p : Json → Bool} (hp : ∀ f v, valid x d (f + 1) t v = some (p v))
    (f : Nat) (v : Json) (h : valid x d f t v = some true) : p v = true := by
  obtain ⟨f', rfl⟩ := ne_zero_of_valid h
  exact Option.some.inj ((hp f' v).symm.trans h)

/-- the `emptied` of `enumWith` -/
theorem spec_emptied {te : Bool} {a b : Schema} (h : Disj x d a b) :
    Spec x d (if te then MR.never [] else MR.ok (.enumVals []) [Gap.enumEmptied]) a b := by
  cases te
  · trivial
  · exact h

/-- the `out` of `enumWith`: its arms for unconstrained scalar types -/
theorem spec_out {te : Bool} {vs : List Json} {t : Schema} {p : Json → Bool} (hp : ∀ f v, valid x d (f + 1) t v = some (p v)) :
    Spec x d (if (vs.filter p).isEmpty then (if te then MR.never [] else MR.ok (.enumVals []) [Gap.enumEmptied])
              else MR.ok (.enumVals (vs.filter p)) [])
      (.enumVals vs) t := by
  split
  · exact spec_emptied (enum_disj (fuelFree_true hp) ‹_›)
  · exact enum_inter hp

/-- the arms of `enumWith` for constrained types: only emptiness is decided -/
theorem spec_emptied_ty {te : Bool} {vs : List Json} {t : Schema} {ty : Ty} (ht : tyOf t = some ty) :
    Spec x d (if (vs.filter (jsonTy ty)).isEmpty then (if te then MR.never [] else MR.ok (.enumVals []) [Gap.enumEmptied])
              else MR.unsup)
      (.enumVals vs) t := by
  split
  · exact spec_emptied (enum_disj (fun _ _ => valid_ty ht) ‹_›)
  · trivial

theorem enumWith_spec (te : Bool) (vs : List Json) (t : Schema) : Spec x d (enumWith te vs t) (.enumVals vs) t := by
  unfold enumWith
  simp only
  split
  · exact spec_out (fun f v => by cases v <;> rfl)
  · exact spec_out (fun f v => by cases v <;> rfl)
  · exact spec_out (fun f v => by cases v <;> rfl)
  · exact spec_out (fun f v => by cases v <;> rfl)
  · exact spec_out (fun f v => by cases v <;> rfl)
  · exact spec_emptied_ty rfl
  · exact spec_emptied_ty rfl
  · exact spec_emptied_ty rfl
  · exact spec_emptied_ty rfl
  · trivial

/-- `some va, some vb` arm of `mergeBody` (`merge_so_enum_values`) -/
theorem enum_enum_spec (va vb : List Json) :
    Spec x d (let r := va.filter (fun x => vb.any (· == x)); if r.isEmpty then MR.never [] else MR.ok (.enumVals r) [])
      (.enumVals va) (.enumVals vb) := by
  have hp : ∀ f v, valid x d (f + 1) (.enumVals vb) v = some (vb.any (· == v)) := fun _ _ => rfl
  simp only
  split
  · exact enum_disj (fuelFree_true hp) ‹_›
  · exact enum_inter hp

theorem omaxI_le (lo lo' : Option Int) (n : Int) :
    (match omaxI lo lo' with | some l => decide (l ≤ n) | none => true) =
      ((match lo with | some l => decide (l ≤ n) | none => true) &&
       (match lo' with | some l => decide (l ≤ n) | none => true)) := by
  cases lo <;> cases lo' <;> simp [omaxI, Int.max_le]

theorem le_ominI (hi hi' : Option Int) (n : Int) :
    (match ominI hi hi' with | some h => decide (n ≤ h) | none => true) =
      ((match hi with | some h => decide (n ≤ h) | none => true) &&
       (match hi' with | some h => decide (n ≤ h) | none => true)) := by
  cases hi <;> cases hi' <;> simp [ominI, Int.le_min]

theorem int_inter (lo hi lo' hi' : Option Int) :
    Inter x d (.integer (omaxI lo lo') (ominI hi hi')) (.integer lo hi) (.integer lo' hi') := by
  intro v f2 f3 ba bb h2 h3
  obtain ⟨f2', rfl⟩ := ne_zero_of_valid h2
  obtain ⟨f3', rfl⟩ := ne_zero_of_valid h3
  cases h2; cases h3
  refine ⟨1, congrArg some ?_⟩
  cases v with
  | int n => exact (congr (congrArg and (omaxI_le ..)) (le_ominI ..)).trans (and_and_and_comm ..)
  | _ => rfl

theorem str_absent_inter {mn mx : Option Nat} {p : Option String} (h : strAbsent mn mx p = true) (b : Schema)
    (hb : tyOf b = some .string) : Inter x d b (.string mn mx p) b := by
  simp only [strAbsent, Bool.and_eq_true, Option.isNone_iff_eq_none] at h
  obtain ⟨⟨rfl, rfl⟩, rfl⟩ := h
  apply Inter_right
  intro v f2 f3 ba h2 h3
  have hty := valid_ty hb h3
  obtain ⟨f2', rfl⟩ := ne_zero_of_valid h2
  cases h2
  cases v <;> first | rfl | cases hty

end TypifyModel.Merge
