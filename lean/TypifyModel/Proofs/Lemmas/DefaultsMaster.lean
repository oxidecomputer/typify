import TypifyModel.Proofs.Lemmas.DefaultsLemmas
/-! The simulation behind C06 (`Good`), by induction on the fuel of `validate_value`: here the
    steps for the scalar, wrapper, sequence, tuple and map kinds. -/
namespace TypifyModel.Defaults
open TypifyModel TypifyModel.Serde

def GoodAt (x : Ext) (σ : Space) (n : Nat) (t : Id) (d : Json) : Prop :=
  ∃ e, outputValue x σ n t d = .ok e ∧ hasType σ n e t = true ∧ Rel x σ t d e

def Good (x : Ext) (σ : Space) (n : Nat) : Prop :=
  ∀ t d k, validateValue x σ n t d = .ok k → WFDefault x σ n t d = true → GoodAt x σ n t d

variable {x : Ext} {σ : Space} {n : Nat} {t t' : Id} {d : Json} {k : DKind} {ed : List String} {im : List Impl}

theorem goodAt_succ (e : RExpr)
    (h : outputValue x σ (n + 1) t d = .ok e ∧ hasType σ (n + 1) e t = true ∧
      ∀ m, Sim (eval x σ (m + 1) e t) (de x σ (m + 1) t d)) : GoodAt x σ (n + 1) t d :=
  ⟨e, h.1, h.2.1, fun | 0 => .fuel | m + 1 => h.2.2 m⟩

theorem float_prefix {name : String} (h : (name == "f64" || name == "f32") = true) :
    name.startsWith nonZeroPrefix = false := by
  simp only [Bool.or_eq_true, beq_iff_eq] at h
  rcases h with rfl | rfl <;> decide +kernel

theorem validateInteger_ok {name : String} {ty : RTy} (h : validateInteger name d = .ok k)
    (hty : rtyOfName name = some ty) :
    ∃ v, d = .int v ∧ (ty.lo ≤ v ∧ v ≤ ty.hi) ∧ (asU64 d = some v ∨ asU64 d = none ∧ asI64 d = some v) := by
  unfold validateInteger integerFits at h
  rw [hty] at h
  cases d with
  | int v =>
    refine ⟨v, rfl, ?_⟩
    simp only [asU64, asI64] at h ⊢
    by_cases h1 : 0 ≤ v ∧ v ≤ u64Max <;> by_cases h2 : i64Min ≤ v ∧ v ≤ i64Max <;>
      by_cases hr : ty.lo ≤ v ∧ v ≤ ty.hi <;> simp [h1, h2, hr] at h ⊢
  | _ => simp [asU64, asI64] at h

theorem nz_lo {ty : RTy} (h : ty.isNonZero = true) : 0 < ty.lo := by
  cases ty <;> first | decide | cases h

theorem isOptionTy_false (h : isOptionTy σ t = false) (a : Id) (b : List String) (c : List Impl) :
    σ.get t ≠ some ⟨.option a, b, c⟩ := by
  intro hg
  rw [isOptionTy, hg] at h
  cases h

theorem isStringTy_get (h : isStringTy σ t = true) : ∃ ed im, σ.get t = some ⟨.string, ed, im⟩ := by
  unfold isStringTy at h
  split at h
  · exact ⟨_, _, ‹_›⟩
  · cases h

theorem step_jsonValue (hg : σ.get t = some ⟨.jsonValue, ed, im⟩) : GoodAt x σ (n + 1) t d := by
  refine goodAt_succ (.fromStr "::serde_json::Value" d) ?_
  simp only [outputValue, hasType, eval, de, hg, beq_self_eq_true, true_and]
  exact fun _ => .ok _

section
variable (ih : Good x σ n)
include ih

theorem tuple_out {ts : List Id} (hv : validateTuple (validateValue x σ n) ts d = .ok k)
    (hw : ∀ xs, d = .arr xs → wfZip (WFDefault x σ n) ts xs = true) :
    ∃ xs es, d = .arr xs ∧ valueForTuple (outputValue x σ n) ts d = .ok es ∧
      zipAllB (fun a t' => hasType σ n a t') es ts = true ∧ es.length = ts.length ∧
      ∀ m, Sim (zipE (fun t' a => eval x σ m a t') ts es) (zipM (de x σ m) ts xs) := by
  unfold validateTuple at hv
  cases d with
  | arr xs =>
    simp only [ne_eq, ite_not] at hv
    split at hv
    · rename_i hlen
      have hz : validateZip (validateValue x σ n) ts xs = .ok () := by
        cases hva : validateZip (validateValue x σ n) ts xs <;> first | rfl | (simp only [hva] at hv; cases hv)
      obtain ⟨es, ho, hh, hl, hr⟩ := zip_out ih ts xs hz (hw xs rfl)
      exact ⟨xs, es, rfl, by simp only [valueForTuple, hlen, ne_eq, not_true_eq_false, if_false, ho], hh, hl, hr⟩
    · cases hv
  | _ => cases hv

theorem map_out {kt vt : Id} (hgk : σ.get kt = some ⟨.string, ed, im⟩) :
    ∀ kvs, validateMapEntries (validateValue x σ n) kt vt kvs = .ok () →
      kvs.all (fun kv => WFDefault x σ n vt kv.2) = true →
      ∃ es, outMapEntries (outputValue x σ n) kt vt kvs = .ok es ∧
        es.all (fun ab => hasType σ n ab.1 kt && hasType σ n ab.2 vt) = true ∧
        Rel2 (fun (ab : RExpr × RExpr) (kv : String × Json) => ab.1 = .str kv.1 ∧ Rel x σ vt kv.2 ab.2) es kvs := by
  intro kvs
  induction kvs with
  | nil => intro _ _; exact ⟨[], rfl, rfl, .nil⟩
  | cons kv r ihl =>
    obtain ⟨key, val⟩ := kv
    intro hv hw
    simp only [validateMapEntries] at hv
    simp only [List.all_cons, Bool.and_eq_true] at hw
    split at hv
    · cases hv
    · rename_i k1 hk1
      split at hv
      · cases hv
      · rename_i k2 hk2
        obtain ⟨e2, ho2, hh2, hr2⟩ := ih vt val k2 hk2 hw.1
        obtain ⟨es, hes, hhs, hrs⟩ := ihl hv hw.2
        cases n with
        | zero => cases hk1
        | succ n =>
          obtain ⟨ho1, hh1, _⟩ := string_facts (x := x) hgk key n
          refine ⟨(.str key, e2) :: es, ?_, ?_, .cons ⟨rfl, hr2⟩ hrs⟩
          · simp only [outMapEntries, ho1, ho2, hes]
          · simp only [List.all_cons, hh1, hh2, hhs, Bool.and_self]

end

section
variable (hv : validateValue x σ (n + 1) t d = .ok k)
include hv

theorem step_unit (hg : σ.get t = some ⟨.unit, ed, im⟩) : GoodAt x σ (n + 1) t d := by
  simp only [validateValue, hg] at hv
  cases d <;> cases hv
  refine goodAt_succ .unit ?_
  simp only [outputValue, hasType, eval, de, hg, true_and]
  exact fun _ => .ok _

theorem step_boolean (hg : σ.get t = some ⟨.boolean, ed, im⟩) : GoodAt x σ (n + 1) t d := by
  simp only [validateValue, hg] at hv
  cases d with
  | bool b =>
    refine goodAt_succ (.bool b) ?_
    simp only [outputValue, hasType, eval, de, hg, true_and]
    exact fun _ => .ok _
  | _ => cases hv

theorem step_string (hg : σ.get t = some ⟨.string, ed, im⟩) : GoodAt x σ (n + 1) t d := by
  simp only [validateValue, hg] at hv
  cases d with
  | str s =>
    refine goodAt_succ (.str s) ?_
    simp only [outputValue, hasType, eval, de, hg, true_and]
    exact fun _ => .ok _
  | _ => cases hv

variable (hw : WFDefault x σ (n + 1) t d = true)
include hw

theorem step_float {name : String} (hg : σ.get t = some ⟨.float name, ed, im⟩) : GoodAt x σ (n + 1) t d := by
  simp only [validateValue, WFDefault, hg] at hv hw
  obtain ⟨num, hnum⟩ : ∃ num, numOf d = some num := by
    cases d <;> first | exact ⟨_, rfl⟩ | cases hv
  refine goodAt_succ (.numLit num name) ?_
  simp only [outputValue, hasType, eval, de, hg, hnum, float_prefix hw, hw, beq_self_eq_true, Bool.false_eq_true,
    if_false, Bool.and_self, true_and]
  cases d <;> cases hnum <;> exact fun _ => .ok _

theorem step_integer {name : String} (hg : σ.get t = some ⟨.integer name, ed, im⟩) : GoodAt x σ (n + 1) t d := by
  simp only [validateValue, WFDefault, hg] at hv hw
  obtain ⟨ty, hty⟩ := Option.isSome_iff_exists.mp hw
  obtain ⟨v, rfl, ⟨hlo, hhi⟩, _⟩ := validateInteger_ok hv hty
  have h0 : ty.isNonZero = true → 0 ≤ v := fun h => Int.le_trans (Int.le_of_lt (nz_lo h)) hlo
  refine goodAt_succ (if ty.isNonZero then .nonZeroNew name (.int v) else .numLit (.int v) name) ?_
  cases hnz : ty.isNonZero <;>
  · simp only [outputValue, hasType, eval, de, hg, hty, numOf, nz_prefix hty, hnz, hlo, hhi, h0, Bool.false_eq_true,
      if_false, if_true, and_self, beq_self_eq_true, decide_true, Bool.not_false, Bool.and_self, true_and]
    exact fun _ => .ok _

variable (ih : Good x σ n)
include ih

theorem step_box (hg : σ.get t = some ⟨.box t', ed, im⟩) : GoodAt x σ (n + 1) t d := by
  simp only [validateValue, WFDefault, hg] at hv hw
  obtain ⟨e', ho, hh, hr⟩ := ih t' d k hv hw
  refine goodAt_succ (.boxNew e') ?_
  simp only [outputValue, hasType, eval, de, hg, ho, hh, true_and]
  exact hr

theorem step_option (hg : σ.get t = some ⟨.option t', ed, im⟩) : GoodAt x σ (n + 1) t d := by
  simp only [validateValue, WFDefault, hg, Bool.and_eq_true, Bool.not_eq_true'] at hv hw
  by_cases hnull : d = .null
  · subst hnull
    refine goodAt_succ .none ?_
    simp only [outputValue, hasType, eval, de, hg, true_and]
    exact fun _ => .ok _
  · simp only at hv hw
    cases hk : validateValue x σ n t' d with
    | error e => rw [hk] at hv; cases hv
    | ok k' =>
      obtain ⟨e', ho, hh, hr⟩ := ih t' d k' hk hw.2
      -- `simp` discharges the side conditions of the catch-all arms from `hnull` and `hne` in the context
      have hne := isOptionTy_false hw.1
      refine goodAt_succ (.some e') ?_
      simp only [outputValue, hasType, eval, de, hg, ho, hh, hw.1, Bool.not_false, Bool.and_self, true_and]
      exact fun m => (hr m).lift (fun _ => .ok _) fun _ => .err

theorem step_newtype {name : String} {c : Constraints} {dflt' : Option Json}
    (hg : σ.get t = some ⟨.newtype name t' c dflt', ed, im⟩) : GoodAt x σ (n + 1) t d := by
  simp only [validateValue, WFDefault, hg, Bool.and_eq_true] at hv hw
  cases hk : validateValue x σ n t' d with
  | error e => rw [hk] at hv; cases hv
  | ok k' =>
    rw [hk] at hv
    obtain ⟨e', ho, hh, hr⟩ := ih t' d k' hk hw.2
    refine goodAt_succ (.newtype name (some e')) ?_
    simp only [outputValue, hasType, eval, de, hg, ho, hh, beq_self_eq_true, Bool.and_self, true_and]
    intro m
    cases c with
    | none => exact (hr m).lift (fun _ => .ok _) fun _ => .err
    | string mx mn pat =>
      obtain ⟨ed', im', hgi⟩ := isStringTy_get hw.1
      cases d with
      | str s =>
        cases n with
        | zero => cases hk
        | succ n =>
          cases (string_facts (x := x) hgi s n).1.symm.trans ho
          cases m with
          | zero => exact .fuel
          | succ m =>
            rw [(string_facts hgi s m).2.2.1, (string_facts hgi s m).2.2.2]
            cases hc : checkString x mx mn pat s with
            | true => simp only [hc, if_true]; exact .ok _
            | false => simp only [constraintOk, hc, Bool.false_eq_true, if_false] at hv; cases hv
      | _ => simp only [constraintOk, Bool.false_eq_true, if_false] at hv; cases hv
    | enumValues vs => cases hw.1
    | denyValues vs => cases hw.1

theorem step_vec (hg : σ.get t = some ⟨.vec t', ed, im⟩) : GoodAt x σ (n + 1) t d := by
  simp only [validateValue, WFDefault, hg] at hv hw
  cases d with
  | arr xs =>
    have hall : validateAll (validateValue x σ n t') xs = .ok () := by
      cases xs with
      | nil => rfl
      | cons a r =>
        cases hva : validateAll (validateValue x σ n t') (a :: r) <;> first | rfl | (simp only [hva] at hv; cases hv)
    obtain ⟨es, ho, hh, -, hr⟩ := list_out (ih t') xs hall hw
    refine goodAt_succ (.vecMacro es) ?_
    simp only [outputValue, hasType, eval, de, hg, ho, hh, true_and]
    exact fun m => (hr m).lift (fun _ => .ok _) fun _ => .err
  | _ => cases hv

theorem step_set (hg : σ.get t = some ⟨.set t', ed, im⟩) : GoodAt x σ (n + 1) t d := by
  simp only [validateValue, WFDefault, hg] at hv hw
  cases d with
  | arr xs =>
    have hall : validateSet (validateValue x σ n t') xs = .ok () := by
      cases xs with
      | nil => rfl
      | cons a r =>
        cases hva : validateSet (validateValue x σ n t') (a :: r) <;> first | rfl | (simp only [hva] at hv; cases hv)
    obtain ⟨es, ho, hh, -, hr⟩ := list_out (ih t') xs (validateSet_all xs hall) hw
    refine goodAt_succ (.vecMacro es) ?_
    simp only [outputValue, hasType, eval, de, hg, ho, hh, true_and]
    exact fun m => (hr m).lift (fun _ => .ok _) fun _ => .err
  | _ => cases hv

theorem step_array {len : Nat} (hg : σ.get t = some ⟨.array t' len, ed, im⟩) : GoodAt x σ (n + 1) t d := by
  simp only [validateValue, WFDefault, hg] at hv hw
  cases d with
  | arr xs =>
    simp only [ne_eq, ite_not] at hv
    split at hv
    · rename_i hlen
      have hall : validateAll (validateValue x σ n t') xs = .ok () := by
        cases hva : validateAll (validateValue x σ n t') xs <;> first | rfl | (simp only [hva] at hv; cases hv)
      obtain ⟨es, ho, hh, hl, hr⟩ := list_out (ih t') xs hall hw
      refine goodAt_succ (.array es) ?_
      simp only [outputValue, hasType, eval, de, hg, ho, hh, hl, hlen, beq_self_eq_true, Bool.and_self, if_true, true_and]
      exact fun m => (hr m).lift (fun _ => .ok _) fun _ => .err
    · cases hv
  | _ => cases hv

theorem step_tuple {ts : List Id} (hg : σ.get t = some ⟨.tuple ts, ed, im⟩) : GoodAt x σ (n + 1) t d := by
  simp only [validateValue, WFDefault, hg] at hv hw
  obtain ⟨xs, es, rfl, ho, hh, hl, hr⟩ := tuple_out ih hv (fun xs hd => by subst hd; exact hw)
  refine goodAt_succ (tupleExpr es) ?_
  simp only [outputValue, hasType, eval, de, tupleExpr, hg, ho, hh, Bool.and_true, true_and]
  exact ⟨by simp only [bne, Bool.not_or_self], fun m => (hr m).lift (fun _ => .ok _) fun _ => .err⟩

theorem step_map {kt vt : Id} (hg : σ.get t = some ⟨.map kt vt, ed, im⟩) : GoodAt x σ (n + 1) t d := by
  simp only [validateValue, WFDefault, hg, Bool.and_eq_true] at hv hw
  obtain ⟨edk, imk, hgk⟩ := isStringTy_get hw.1
  cases d with
  | obj kvs =>
    have hall : validateMapEntries (validateValue x σ n) kt vt kvs = .ok () := by
      cases kvs with
      | nil => rfl
      | cons a r =>
        cases hva : validateMapEntries (validateValue x σ n) kt vt (a :: r) <;>
          first | rfl | (simp only [hva] at hv; cases hv)
    obtain ⟨es, ho, hh, hr⟩ := map_out ih hgk kvs hall hw.2
    refine goodAt_succ (.mapCollect es) ?_
    simp only [outputValue, hasType, eval, de, hg, ho, hh, true_and]
    intro m
    -- name the two readers of an entry, whatever `eval` and `de` call them
    generalize hF : mapM' _ es = a
    generalize hG : mapM' _ kvs = b
    have hab : Sim a b := by
      rw [← hF, ← hG]
      refine mapM'_rel2 (fun ab kv hab => ?_) hr
      obtain ⟨ek, ev⟩ := ab
      obtain ⟨rfl, hv⟩ := hab
      cases m with
      | zero => exact .fuel
      | succ m =>
        obtain ⟨-, -, he, hd⟩ := string_facts (x := x) hgk kv.1 m
        simp only [he, hd]
        exact (hv (m + 1)).lift (fun _ => .ok _) fun _ => .err
    exact hab.lift (fun _ => .ok _) fun _ => .err
  | _ => cases hv

end

end TypifyModel.Defaults
