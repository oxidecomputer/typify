import TypifyModel.Model.Serde
import TypifyModel.Proofs.Lemmas.SerdeBasics
/-! What `de` has read when it answers `ok`, per kind of type: the shape of the document, the parts it read with the
    types inside, and the value it built from them. -/
namespace TypifyModel.Serde

variable {x : Ext} {σ : Space} {fd : Nat} {t : Id} {ed : List String} {im : List Impl} {j : Json} {v : Val}
  {nm : String} {variants : List Variant} {deny : Bool} {dv : Option Json} {bes : List Bespoke}

theorem de_option_of_ne_null {t' : Id} (hg : σ.get t = some ⟨.option t', ed, im⟩) (hv : j ≠ .null) :
    de x σ (fd + 1) t j =
      match σ.get t' with
      | some ⟨.option _, _, _⟩ => de x σ fd t' j
      | _ => match de x σ fd t' j with
        | .ok a => .ok (.some a)
        | .error e => .error e := by
  simp only [de, hg]
  cases j <;> first | exact absurd rfl hv | rfl

theorem de_option_cases {t' : Id} (hg : σ.get t = some ⟨.option t', ed, im⟩) (h : de x σ (fd + 1) t j = .ok v) :
    j = .null ∨ ∃ v', de x σ fd t' j = .ok v' := by
  by_cases hj : j = .null
  · exact .inl hj
  · rw [de_option_of_ne_null hg hj] at h
    right
    split at h
    · exact ⟨v, h⟩
    · split at h
      · exact ⟨_, ‹_›⟩
      · cases h

theorem de_newtype_ok {t' : Id} {c : Constraints} (hg : σ.get t = some ⟨.newtype nm t' c dv, ed, im⟩)
    (h : de x σ (fd + 1) t j = .ok v) : de x σ fd t' j = .ok v := by
  simp only [de, hg] at h
  split at h
  · cases h
  · rename_i v' hv'
    rw [hv']
    cases c with
    | none => exact h
    | string mx mn pat =>
      simp only at h
      split at h
      · split at h
        · exact h
        · cases h
      · cases h
    | enumValues vals =>
      simp only at h
      split at h
      · cases h
      · cases h
      · split at h
        · exact h
        · cases h
    | denyValues vals =>
      simp only at h
      split at h
      · cases h
      · cases h
      · split at h
        · cases h
        · exact h

theorem findIdx_variant {w : String} {i : Nat} (hi : variants.findIdx? (fun v => v.wire == w) = some i) :
    ∃ vr, variants[i]? = some vr ∧ vr.wire = w := by
  obtain ⟨hlt, hp, -⟩ := List.findIdx?_eq_some_iff_getElem.mp hi
  exact ⟨variants[i], List.getElem?_eq_getElem hlt, eq_of_beq hp⟩

theorem deVariantBody_simple {seqOk : Bool} {p : Val}
    (h : deVariantBody x σ fd .simple deny seqOk j = .ok p) : j = .null := by
  cases fd with
  | zero => cases h
  | succ fd =>
    simp only [deVariantBody] at h
    split at h
    · rfl
    · cases h

theorem de_external (hget : σ.get t = some ⟨.enum nm .external variants deny dv bes, ed, im⟩)
    (hde : de x σ (fd + 1) t j = .ok v) :
    ∃ i vr, variants.findIdx? (fun v => v.wire == vr.wire) = some i ∧ variants[i]? = some vr ∧
      ((j = .str vr.wire ∧ vr.details = .simple ∧ v = .variant i .unit) ∨
       ∃ body rest p, j = .obj ((vr.wire, body) :: rest) ∧ rest.all (fun kv => kv.1 == vr.wire) = true ∧
         deVariantBody x σ fd vr.details deny true body = .ok p ∧ v = .variant i p) := by
  simp only [de, hget] at hde
  split at hde
  · split at hde
    · cases hde
    · rename_i i hi
      obtain ⟨vr, hvr, rfl⟩ := findIdx_variant hi
      rw [hvr] at hde
      split at hde
      · rename_i heq
        cases heq
        cases hde
        exact ⟨i, _, hi, hvr, .inl ⟨rfl, rfl, rfl⟩⟩
      · cases hde
  · split at hde
    · cases hde
    · rename_i hall
      split at hde
      · cases hde
      · rename_i i hi
        obtain ⟨vr, hvr, rfl⟩ := findIdx_variant hi
        rw [hvr] at hde
        split at hde
        · rename_i heq
          cases heq
          split at hde
          · cases hde
            exact ⟨i, _, hi, hvr, .inr ⟨_, _, _, rfl, Bool.of_not_eq_false fun h => hall (by rw [h]; rfl), ‹_›, rfl⟩⟩
          · cases hde
        · cases hde
  · cases hde

theorem de_internal {tg : String} (hget : σ.get t = some ⟨.enum nm (.internal tg) variants deny dv bes, ed, im⟩)
    (hde : de x σ (fd + 1) t j = .ok v) :
    ∃ kvs i vr, j = .obj kvs ∧ Json.lookup kvs tg = some (.str vr.wire) ∧
      variants.findIdx? (fun v => v.wire == vr.wire) = some i ∧ variants[i]? = some vr ∧
      ((vr.details = .simple ∧ v = .variant i .unit) ∨
       (∃ ps p, vr.details = .struct ps ∧ deStruct x σ fd ps deny (.obj (Json.erase kvs tg)) = .ok p ∧ v = .variant i p) ∨
       ∃ t' p, vr.details = .item t' ∧ de x σ fd t' (.obj (Json.erase kvs tg)) = .ok p ∧ v = .variant i p) := by
  simp only [de, hget] at hde
  split at hde
  · rename_i kvs
    split at hde
    · rename_i s hlk
      split at hde
      · cases hde
      · rename_i i hi
        obtain ⟨vr, hvr, rfl⟩ := findIdx_variant hi
        rw [hvr] at hde
        refine ⟨kvs, i, vr, rfl, hlk, hi, hvr, ?_⟩
        split at hde
        · rename_i heq
          cases heq
          cases hde
          exact .inl ⟨rfl, rfl⟩
        · rename_i heq
          cases heq
          split at hde
          · cases hde
            exact .inr (.inl ⟨_, _, rfl, ‹_›, rfl⟩)
          · cases hde
        · rename_i heq
          cases heq
          split at hde
          · cases hde
            exact .inr (.inr ⟨_, _, rfl, ‹_›, rfl⟩)
          · cases hde
        · cases hde
    · cases hde
  · cases hde
  · cases hde

theorem de_adjacent {tg ct : String} (hget : σ.get t = some ⟨.enum nm (.adjacent tg ct) variants deny dv bes, ed, im⟩)
    (hde : de x σ (fd + 1) t j = .ok v) :
    ∃ kvs i vr, j = .obj kvs ∧ (deny = true → ∀ kv ∈ kvs, kv.1 = tg ∨ kv.1 = ct) ∧
      Json.lookup kvs tg = some (.str vr.wire) ∧
      variants.findIdx? (fun v => v.wire == vr.wire) = some i ∧ variants[i]? = some vr ∧
      match Json.lookup kvs ct with
      | none => (vr.details = .simple ∧ v = .variant i .unit) ∨
          ∃ t', vr.details = .item t' ∧ optionLikeT σ t' = true ∧ v = .variant i .none
      | some body => (vr.details = .simple ∧ body = .null ∧ v = .variant i .unit) ∨
          (vr.details ≠ .simple ∧ ∃ p, deVariantBody x σ fd vr.details deny false body = .ok p ∧ v = .variant i p) := by
  simp only [de, hget] at hde
  split at hde
  · rename_i kvs
    split at hde
    · cases hde
    · rename_i hdeny
      split at hde
      · rename_i s hlk
        split at hde
        · cases hde
        · rename_i i hi
          obtain ⟨vr, hvr, rfl⟩ := findIdx_variant hi
          rw [hvr] at hde
          refine ⟨kvs, i, vr, rfl, fun hd kv hkv => ?_, hlk, hi, hvr, ?_⟩
          · by_cases h1 : kv.1 = tg
            · exact .inl h1
            · by_cases h2 : kv.1 = ct
              · exact .inr h2
              · refine absurd ?_ hdeny
                rw [hd, Bool.true_and]
                exact List.any_eq_true.mpr ⟨kv, hkv, by
                  simp only [ne_eq, h1, h2, not_false_eq_true, decide_true, Bool.and_self]⟩
          · split at hde
            · rename_i heq hl
              cases heq
              cases hde
              rw [hl]
              exact .inl ⟨rfl, rfl⟩
            · rename_i heq hl
              cases heq
              cases hde
              rw [hl]
              exact .inl ⟨rfl, rfl, rfl⟩
            · cases hde
            · rename_i hns heq hl
              cases heq
              rw [hl]
              split at hde
              · cases hde
                exact .inr ⟨fun hd => hns vr.rawName vr.identName (hd ▸ rfl), _, ‹_›, rfl⟩
              · cases hde
            · rename_i heq hl
              cases heq
              rw [hl]
              split at hde
              · cases hde
                exact .inr ⟨_, rfl, ‹_›, rfl⟩
              · cases hde
            · cases hde
      · cases hde
  · cases hde
  · cases hde

end TypifyModel.Serde
