import TypifyModel.Model.Integer
/-! Facts about the model of f64 rounding used by `convert_integer`. -/
namespace TypifyModel.Integer

theorem roundNat_of_lt {n : Nat} (h : n < 2 ^ 53) : roundNat n = n := by
  unfold roundNat; simp [h]

theorem roundNat_ge {n : Nat} (h : 2 ^ 53 ≤ n) : 2 ^ 53 ≤ roundNat n := by
  have hne : n ≠ 0 := by omega
  have hlog : 53 ≤ Nat.log2 n := (Nat.le_log2 hne).mpr h
  unfold roundNat
  simp only [show ¬ n < 2 ^ 53 by omega, if_false]
  generalize he : Nat.log2 n - 52 = e
  -- 53 significant bits stay in the quotient; the exponent is ≥ 1
  have hq : 2 ^ 52 ≤ n / 2 ^ e := by
    rw [Nat.le_div_iff_mul_le (Nat.two_pow_pos _), ← Nat.pow_add, show 52 + e = Nat.log2 n by omega]
    exact Nat.log2_self_le hne
  have h2 : 2 ^ 1 ≤ 2 ^ e := Nat.pow_le_pow_right (by decide) (by omega)
  calc 2 ^ 53 = 2 ^ 52 * 2 ^ 1 := by decide
    _ ≤ _ := Nat.mul_le_mul (by split <;> omega) h2

theorem roundNat_eq_of_result_small {n : Nat} (h : roundNat n < 2 ^ 53) : roundNat n = n := by
  by_cases hn : n < 2 ^ 53
  · exact roundNat_of_lt hn
  · have := roundNat_ge (Nat.le_of_not_lt hn); omega

theorem roundF64_eq_of_result_small {x : Int} (h : -(2 ^ 53) < roundF64 x ∧ roundF64 x < 2 ^ 53) : roundF64 x = x := by
  unfold roundF64 at h ⊢
  split
  · rw [if_pos ‹_›] at h
    have := roundNat_eq_of_result_small (n := x.toNat) (by omega); omega
  · rw [if_neg ‹_›] at h
    have := roundNat_eq_of_result_small (n := (-x).toNat) (by omega); omega

theorem roundF64_eq_of_arg_small {x : Int} (h : -(2 ^ 53) < x ∧ x < 2 ^ 53) : roundF64 x = x := by
  unfold roundF64
  split <;> rw [roundNat_of_lt (by omega)] <;> omega

end TypifyModel.Integer
