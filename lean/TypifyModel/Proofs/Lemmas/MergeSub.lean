import TypifyModel.Proofs.Lemmas.MergeRough
import TypifyModel.Proofs.Lemmas.MergeBody
/-! C09: `try_merge_with_subschemas` — the `allOf` fold and `not` (try_merge_schema_not). Against an
    object, `not {required: [r]}` is read as the object schema `{properties: {r: false}}`. -/
namespace TypifyModel.Merge
open TypifyModel TypifyModel.Validate

variable {x : Ext} {d : Doc}

theorem addGaps_nil (r : MR) : r.addGaps [] = r := by cases r <;> rfl

theorem spec_addGaps {r : MR} {g : List Gap} {a b : Schema} (h : g = [] → Spec x d r a b) :
    Spec x d (r.addGaps g) a b := by
  cases g with
  | nil => rw [addGaps_nil]; exact h rfl
  | cons c g => cases r <;> trivial

/-- `u` is the conjunction of `p` and `t` -/
def Decomp (x : Ext) (d : Doc) (u p t : Schema) : Prop :=
  ∀ v f bb, valid x d f u v = some bb → ∃ f' f'' bp bt, valid x d f' p v = some bp ∧ valid x d f'' t v = some bt ∧ bb = (bp && bt)

theorem Inter_chain {m m' so p t u : Schema} (h1 : Inter x d m so p) (h2 : Inter x d m' m t) (hd : Decomp x d u p t) :
    Inter x d m' so u := by
  intro v f2 f3 ba bb hso hu
  obtain ⟨f', f'', bp, bt, hp, ht, rfl⟩ := hd v f3 bb hu
  obtain ⟨g1, hg1⟩ := h1 v f2 f' ba bp hso hp
  obtain ⟨g2, hg2⟩ := h2 v g1 f'' _ bt hg1 ht
  exact ⟨g2, by rw [hg2, Bool.and_assoc]⟩

theorem Disj_chain {m so p t u : Schema} (hd : Decomp x d u p t)
    (h : Disj x d so p ∨ Inter x d m so p ∧ Disj x d m t) : Disj x d so u := by
  intro v f2 f3 ⟨hso, hu⟩
  obtain ⟨f', f'', bp, bt, hp, ht, hb⟩ := hd v f3 true hu
  obtain ⟨rfl, rfl⟩ := Bool.and_eq_true_iff.mp hb.symm
  rcases h with h1 | ⟨h1, h2⟩
  · exact h1 v f2 f' ⟨hso, hp⟩
  · obtain ⟨g1, hg1⟩ := h1 v f2 f' true true hso hp
    exact h2 v g1 f'' ⟨hg1, ht⟩

theorem Inter_true_right {so t : Schema} (ht : ∀ v f bb, valid x d f t v = some bb → bb = true) : Inter x d so so t :=
  (Inter_right fun v f2 _ ba h2 _ => ht v f2 ba h2).symm

theorem allOf_decomp (y : Schema) (r : List Schema) : Decomp x d (.allOf (y :: r)) y (.allOf r) := by
  intro v f bb h
  obtain ⟨f', rfl⟩ := ne_zero_of_valid h
  obtain ⟨p, q, hp, hq, rfl⟩ := and3_some h
  exact ⟨f', f' + 1, p, q, hp, hq, rfl⟩

theorem foldMerge_spec {rec : Schema → Schema → MR} (hrec : RecOK x d rec) :
    ∀ (xs : List Schema) (so : Schema), Spec x d (foldMerge rec so xs) so (.allOf xs)
  | [], so => Inter_true_right fun v f bb h => by
    obtain ⟨f', rfl⟩ := ne_zero_of_valid h
    exact (Option.some.inj h).symm
  | y :: r, so => by
    rw [foldMerge]
    have hs := hrec so y
    generalize rec so y = r0 at hs ⊢
    cases r0 with
    | unsup => trivial
    | never g =>
      exact .of_never fun hg => Disj_chain (m := so) (allOf_decomp y r) (.inl (by subst hg; exact hs))
    | ok m g =>
      refine spec_addGaps fun hg => ?_
      subst hg
      have ih := foldMerge_spec hrec r m
      generalize foldMerge rec m r = r1 at ih ⊢
      cases r1 with
      | unsup => trivial
      | never g' =>
        exact .of_never fun hg => Disj_chain (allOf_decomp y r) (.inr ⟨hs, by subst hg; exact ih⟩)
      | ok m' g' =>
        exact .of_ok fun hg => Inter_chain hs (by subst hg; exact ih) (allOf_decomp y r)

theorem not_verdict {y : Schema} {v : Json} {f : Nat} {bb : Bool} (h : valid x d f (.not y) v = some bb) :
    ∃ f', valid x d f' y v = some (!bb) := by
  obtain ⟨f', rfl⟩ := ne_zero_of_valid h
  obtain ⟨b, hb, rfl⟩ := Option.map_eq_some_iff.mp h
  exact ⟨f', by rw [hb, Bool.not_not]⟩

theorem not_not_verdict (y : Schema) (v : Json) (f : Nat) (bb : Bool)
    (h : valid x d f (.not (.not y)) v = some bb) : ∃ f', valid x d f' y v = some bb := by
  obtain ⟨f1, h1⟩ := not_verdict h
  obtain ⟨f2, h2⟩ := not_verdict h1
  exact ⟨f2, by rw [h2, Bool.not_not]⟩

theorem allV_nots (v : Json) (f : Nat) : ∀ (ys : List Schema) (n : Nat), countV (fun s => valid x d f s v) ys = some n →
    allV (fun s => valid x d (f + 1) s v) (ys.map Schema.not) = some (decide (n = 0))
  | [], _, h => by cases h; rfl
  | y :: r, _, h => by
    obtain ⟨c, k, hc, hk, rfl⟩ := countV_cons_some h
    rw [List.map_cons, allV, valid_not, hc, allV_nots v f r k hk]
    cases c <;> simp [and3]

theorem not_anyOf_verdict (ys : List Schema) (v : Json) (f : Nat) (bb : Bool)
    (h : valid x d f (.not (.anyOf ys)) v = some bb) : ∃ f', valid x d f' (.allOf (ys.map Schema.not)) v = some bb := by
  obtain ⟨f1, h1⟩ := not_verdict h
  obtain ⟨f2, rfl⟩ := ne_zero_of_valid h1
  obtain ⟨n, hn, hb⟩ := Option.map_eq_some_iff.mp h1
  refine ⟨f2 + 2, ?_⟩
  rw [valid_allOf, allV_nots v f2 ys n hn]
  cases bb <;> simp at hb ⊢ <;> omega

theorem find_map_never (ps : List (String × Schema)) (r k : String) :
    (ps.map (fun p => if p.1 == r then (p.1, Schema.never) else p)).find? (fun p => p.1 == k) =
      (ps.find? (fun p => p.1 == k)).map (fun p => if p.1 == r then (p.1, Schema.never) else p) := by
  rw [List.find?_map]
  congr 2
  funext p
  simp only [Function.comp]
  split <;> rfl

theorem find_setNever_self (ps : List (String × Schema)) (r : String) :
    ∃ k', (setNever ps r).find? (fun p => p.1 == r) = some (k', Schema.never) := by
  unfold setNever
  cases hf : ps.find? (fun p => p.1 == r) with
  | some q =>
    have hany : ps.any (fun p => p.1 == r) = true :=
      List.any_eq_true.mpr ⟨q, (find_key_eq hf).2, beq_iff_eq.mpr (find_key_eq hf).1⟩
    rw [if_pos hany, find_map_never, hf]
    exact ⟨q.1, by simp [(find_key_eq hf).1]⟩
  | none =>
    have hany : ¬ ps.any (fun p => p.1 == r) = true := fun hany => by
      obtain ⟨p, hp, hpr⟩ := List.any_eq_true.mp hany
      exact List.find?_eq_none.mp hf p hp hpr
    rw [if_neg hany]
    exact ⟨r, by rw [List.find?_append, hf]; simp⟩

theorem find_setNever_ne (ps : List (String × Schema)) {r k : String} (hne : k ≠ r) :
    (setNever ps r).find? (fun p => p.1 == k) = ps.find? (fun p => p.1 == k) := by
  unfold setNever
  split
  · rw [find_map_never]
    cases hf : ps.find? (fun p => p.1 == k) with
    | none => rfl
    | some q => simp [(find_key_eq hf).1, hne]
  · rw [List.find?_append, show [(r, Schema.never)].find? (fun p => p.1 == k) = none by simpa using Ne.symm hne]
    simp

theorem membersV_forbid (r : String) (f : Nat) : ∀ (kvs : List (String × Json)),
    membersV (valid x d (f + 1)) [(r, .never)] .open_ kvs = some (!(Json.lookup kvs r).isSome)
  | [] => rfl
  | (k, w) :: rest => by
    rw [membersV_cons, membersV_forbid r f rest, hereV, Json.lookup]
    by_cases hk : k = r
    · simp [hk, and3, valid_never]
    · simp [hk, and3, addlV, Ne.symm hk]

theorem membersV_nil_open (g : Schema → Json → Option Bool) : ∀ kvs, membersV g [] .open_ kvs = some true
  | [] => rfl
  | (k, w) :: r => by rw [membersV, List.find?_nil, membersV_nil_open g r]; rfl

theorem not_required_as_object (r : String) (so : Schema) (hso : tyOf so = some .object) (v : Json) (f2 f : Nat) (ba bb : Bool)
    (h2 : valid x d f2 so v = some ba) (h3 : valid x d f (.not (.object [] [r] .open_)) v = some bb) :
    ∃ f' bt, valid x d f' (.object [(r, .never)] [] .open_) v = some bt ∧ (ba = true → bt = bb) := by
  cases v with
  | obj kvs =>
    obtain ⟨f1, h1⟩ := not_verdict h3
    obtain ⟨f1', rfl⟩ := ne_zero_of_valid h1
    refine ⟨2, bb, ?_, fun _ => rfl⟩
    rw [valid_object] at h1 ⊢
    simp only [membersV_nil_open, membersV_forbid, and3, List.all_cons, List.all_nil, Bool.and_true, Bool.true_and,
      Option.some.injEq] at h1 ⊢
    rw [h1, Bool.not_not]
  | _ => exact ⟨1, false, rfl, fun hba => by cases valid_ty hso (hba ▸ h2)⟩

/-- `.object` arm of `mergeNot` with `nreq = [r]`, its gap-free case (merge.rs:466-468) -/
theorem not_required_spec (ps : List (String × Schema)) (req : List String) (ad : Additional Schema) (r : String) :
    Spec x d (if [r].any (fun r => req.contains r) then MR.never []
              else MR.ok (.object ([r].foldl setNever ps) req ad) [])
      (.object ps req ad) (.not (.object [] [r] .open_)) := by
  refine Spec_transfer_on (not_required_as_object r _ rfl) ?_
  have hr : memberS [(r, .never)] .open_ r = .never := by simp [memberS]
  split
  · rename_i hreq
    refine object_disj (k := r) (.inl (by simpa using hreq)) ?_
    rw [hr]
    exact (Disj_never_left _).symm
  · have hI : Inter x d (.object (setNever ps r) (unionReq req []) ad) (.object ps req ad)
        (.object [(r, .never)] [] .open_) := by
      refine object_inter fun k => ?_
      unfold memberS at hr ⊢
      by_cases hk : k = r
      · subst hk
        obtain ⟨k', hk'⟩ := find_setNever_self ps k
        rw [hk', hr]
        exact Inter_never (Disj_never_left _).symm
      · rw [find_setNever_ne ps hk, show [(r, Schema.never)].find? (fun p => p.1 == k) = none by simpa using Ne.symm hk]
        exact (Inter_any_left _).symm
    rwa [show unionReq req [] = req by simp [unionReq]] at hI

theorem isOpen_eq {ad : Additional Schema} (h : isOpen ad = true) : ad = .open_ := by
  cases ad <;> first | rfl | cases h

theorem mergeNot_spec {rec : Schema → Schema → MR} (hrec : RecOK x d rec) (so n : Schema) :
    Spec x d (mergeNot rec so n) so (.not n) := by
  unfold mergeNot
  split
  · refine Inter_true_right fun v f bb h => ?_
    obtain ⟨f', hf'⟩ := not_verdict h
    obtain ⟨f'', rfl⟩ := ne_zero_of_valid hf'
    cases bb <;> first | rfl | cases hf'
  · exact Spec_transfer (not_not_verdict _) (hrec so _)
  · split
    · trivial
    · exact Spec_transfer (not_anyOf_verdict _) (hrec so _)
  · trivial
  · rename_i nps nreq nad
    split
    · rename_i ps req ad
      split
      · trivial
      simp only
      by_cases hc : (nps.isEmpty && isOpen nad && nreq.length == 1) = true
      · simp only [hc, if_true]
        simp only [Bool.and_eq_true, List.isEmpty_iff, beq_iff_eq] at hc
        obtain ⟨⟨rfl, hopen⟩, hlen⟩ := hc
        rw [isOpen_eq hopen]
        match nreq, hlen with
        | [r], _ => exact not_required_spec ps req ad r
      · simp only [hc]
        split <;> trivial
    · trivial
  · trivial

end TypifyModel.Merge
