import TypifyModel.Proofs.Lemmas.MergeObj
/-! C09: soundness of (the strict form of) `roughly` and of the syntactic disjointness test `apart`. -/
namespace TypifyModel.Merge
open TypifyModel TypifyModel.Validate

variable {x : Ext} {d : Doc}

inductive All2 {α β : Type} (R : α → β → Prop) : List α → List β → Prop where
  | nil : All2 R [] []
  | cons {a : α} {b : β} {l₁ : List α} {l₂ : List β} : R a b → All2 R l₁ l₂ → All2 R (a :: l₁) (b :: l₂)

def Eqv (x : Ext) (d : Doc) (a b : Schema) : Prop := ∀ f v, valid x d f a v = valid x d f b v

theorem allV_congr {xs ys : List Schema} (h : All2 (Eqv x d) xs ys) (f : Nat) (v : Json) :
    allV (fun s => valid x d f s v) xs = allV (fun s => valid x d f s v) ys := by
  induction h with
  | nil => rfl
  | cons hab _ ih => rw [allV, hab f v, ih]; rfl

theorem countV_congr {xs ys : List Schema} (h : All2 (Eqv x d) xs ys) (f : Nat) (v : Json) :
    countV (fun s => valid x d f s v) xs = countV (fun s => valid x d f s v) ys := by
  induction h with
  | nil => rfl
  | cons hab _ ih => simp only [countV]; rw [hab f v, ih]

theorem zipV_congr {xs ys : List Schema} (h : All2 (Eqv x d) xs ys) (f : Nat) :
    ∀ js, zipV (valid x d f) xs js = zipV (valid x d f) ys js := by
  induction h with
  | nil => exact fun _ => rfl
  | cons hab _ ih =>
    intro js
    cases js with
    | nil => rfl
    | cons j r => rw [zipV, hab f j, ih r]; rfl

theorem roughlyL_sound {r : Schema → Schema → Bool} (ih : ∀ a b, r a b = true → Eqv x d a b) :
    ∀ (xs ys : List Schema), listRough r xs ys = true → All2 (Eqv x d) xs ys
  | [], [], _ => .nil
  | [], _ :: _, h => nomatch h
  | _ :: _, [], h => nomatch h
  | a :: xs, b :: ys, h =>
    have h := Bool.and_eq_true_iff.mp h
    .cons (ih a b h.1) (roughlyL_sound ih xs ys h.2)

/-- same keys, values with equal verdicts -/
def PropsEqv (x : Ext) (d : Doc) (pa pb : List (String × Schema)) : Prop :=
  (∀ p ∈ pa, ∃ q, pb.find? (fun q => q.1 == p.1) = some q ∧ Eqv x d p.2 q.2) ∧
  (∀ q ∈ pb, (pa.find? (fun p => p.1 == q.1)).isSome = true)

theorem find_congr {pa pb : List (String × Schema)} (h : PropsEqv x d pa pb) (f : Nat) (k : String) (w : Json) (r : Option Bool) :
    (match pa.find? (fun p => p.1 == k) with | some q => valid x d f q.2 w | none => r) =
    (match pb.find? (fun p => p.1 == k) with | some q => valid x d f q.2 w | none => r) := by
  cases hfa : pa.find? (fun p => p.1 == k) with
  | some p =>
    obtain ⟨rfl, hpm⟩ := find_key_eq hfa
    obtain ⟨q, hq, he⟩ := h.1 p hpm
    rw [hq]
    exact he f w
  | none =>
    cases hfb : pb.find? (fun p => p.1 == k) with
    | none => rfl
    | some q =>
      obtain ⟨rfl, hqm⟩ := find_key_eq hfb
      have := h.2 q hqm
      rw [hfa] at this
      cases this

theorem membersV_congr {pa pb : List (String × Schema)} {da db : Additional Schema} (f : Nat)
    (hp : PropsEqv x d pa pb)
    (hd : ∀ w, addlV (valid x d f) da w = addlV (valid x d f) db w) :
    ∀ kvs, membersV (valid x d f) pa da kvs = membersV (valid x d f) pb db kvs
  | [] => rfl
  | (k, w) :: rest => by
    rw [membersV_cons, membersV_cons, membersV_congr f hp hd rest, hereV, hereV, ← hd w]
    exact congrArg (and3 · _) (find_congr hp f k w _)

theorem all_contains_congr {ra rb : List String} (h1 : ra.all (rb.contains ·) = true) (h2 : rb.all (ra.contains ·) = true)
    (P : String → Bool) : ra.all P = rb.all P := by
  apply Bool.eq_iff_iff.mpr
  simp only [List.all_eq_true, List.contains_eq_mem, decide_eq_true_eq] at h1 h2 ⊢
  exact ⟨fun h r hr => h r (h2 r hr), fun h r hr => h r (h1 r hr)⟩

theorem roughly_sound : ∀ (fr : Nat) (a b : Schema), roughlyX true fr a b = true → Eqv x d a b
  | 0, _, _, h => nomatch h
  | fr + 1, a, b, h => fun f v => by
    have ih := roughly_sound fr
    cases f with
    | zero => rw [valid_zero, valid_zero]
    | succ f =>
    unfold roughlyX at h
    split at h
    · rfl
    · rfl
    · rfl
    · rfl
    · rfl
    · simp only [Bool.and_eq_true, beq_iff_eq] at h
      obtain ⟨rfl, rfl⟩ := h; rfl
    · simp only [Bool.and_eq_true, beq_iff_eq] at h
      obtain ⟨⟨rfl, rfl⟩, rfl⟩ := h; rfl
    · rw [beqList_eq _ _ h]
    · rw [beq_iff_eq.mp h]
    · simp only [Bool.and_eq_true, Bool.not_true, Bool.false_or, beq_iff_eq] at h
      obtain ⟨hi, ⟨rfl, rfl⟩, rfl⟩ := h
      rw [valid_array, valid_array, funext (ih _ _ hi f)]
    · rw [valid_tuple, valid_tuple]
      cases v with
      | arr xs => exact zipV_congr (roughlyL_sound ih _ _ h) f xs
      | _ => rfl
    · rename_i pa ra da pb rb db
      simp only [propsRough, Bool.and_eq_true] at h
      obtain ⟨⟨⟨⟨hp, hq⟩, hr1⟩, hr2⟩, hd⟩ := h
      have hprops : PropsEqv x d pa pb := by
        refine ⟨fun p hpm => ?_, List.all_eq_true.mp hq⟩
        have := List.all_eq_true.mp hp p hpm
        split at this
        · exact ⟨_, ‹_›, ih _ _ this⟩
        · cases this
      rw [valid_object, valid_object]
      cases v with
      | obj kvs =>
        show and3 (some _) _ = and3 (some _) _
        rw [all_contains_congr hr1 hr2, membersV_congr f hprops fun w => ?_]
        cases da <;> cases db <;> first | rfl | cases hd | exact ih _ _ hd f w
      | _ => rfl
    · rw [valid_oneOf, valid_oneOf, countV_congr (roughlyL_sound ih _ _ h) f v]
    · rw [valid_anyOf, valid_anyOf, countV_congr (roughlyL_sound ih _ _ h) f v]
    · rw [valid_allOf, valid_allOf, allV_congr (roughlyL_sound ih _ _ h) f v]
    · rw [valid_not, valid_not, ih _ _ h f v]
    · cases h

theorem roughGap_nil {fr : Nat} {m s : Schema} (h : roughGap fr m s = []) : Eqv x d m s := by
  unfold roughGap at h
  split at h
  · exact roughly_sound fr m s ‹_›
  · cases h

theorem valid_deref {f : Nat} {s : Schema} {v : Json} (h : valid x d f s v = some true) :
    ∃ f', valid x d f' (deref1 d s) v = some true := by
  cases s with
  | ref k =>
    obtain ⟨f', rfl⟩ := ne_zero_of_valid h
    rw [valid_ref] at h
    rw [deref1]
    revert h
    cases d.get k with
    | none => exact fun h => nomatch h
    | some r => exact fun h => ⟨f', h⟩
  | _ => exact ⟨f, h⟩

theorem enumsDisjoint_sound {va vb : List Json} (h : enumsDisjoint va vb = true) :
    Disj x d (.enumVals va) (.enumVals vb) := by
  intro v f2 f3 ⟨h2, h3⟩
  obtain ⟨f2', rfl⟩ := ne_zero_of_valid h2
  obtain ⟨f3', rfl⟩ := ne_zero_of_valid h3
  have := List.all_eq_true.mp h v (any_beq_iff.mp (Option.some.inj h2))
  rw [Option.some.inj h3] at this
  cases this

theorem closedApart_sound {px : List (String × Schema)} {rx : List String} {dx : Additional Schema}
    {py : List (String × Schema)} {ry : List String} {dy : Additional Schema}
    (h : closedApart rx py dy = true) : Disj x d (.object px rx dx) (.object py ry dy) := by
  simp only [closedApart, Bool.and_eq_true, List.any_eq_true, Bool.not_eq_true', List.any_eq_false, beq_iff_eq] at h
  obtain ⟨hcl, r, hr, hnot⟩ := h
  refine object_disj (k := r) (.inl hr) ?_
  have hnone : py.find? (fun p => p.1 == r) = none := List.find?_eq_none.mpr fun p hp => by simpa using hnot p hp
  unfold memberS
  rw [hnone]
  cases dy <;> first | exact (Disj_never_left _).symm | cases hcl

theorem tagApart_sound {px : List (String × Schema)} {rx : List String} {dx : Additional Schema}
    {py : List (String × Schema)} {ry : List String} {dy : Additional Schema}
    (h : tagApart px rx py ry = true) : Disj x d (.object px rx dx) (.object py ry dy) := by
  simp only [tagApart, List.any_eq_true, Bool.and_eq_true] at h
  obtain ⟨r, hr, _, hm⟩ := h
  refine object_disj (k := r) (.inl hr) ?_
  split at hm
  · rename_i hfa hfb
    unfold memberS
    rw [hfa, hfb]
    exact enumsDisjoint_sound hm
  · cases hm

theorem apart0_sound {a b : Schema} (h : apart0 a b = true) : Disj x d a b := by
  unfold apart0 at h
  split at h
  · exact enumsDisjoint_sound h
  · simp only [Bool.or_eq_true] at h
    rcases h with (h | h) | h
    · exact tagApart_sound h
    · exact closedApart_sound h
    · exact (closedApart_sound h).symm
  · split at h
    · rename_i ta tb ha hb
      exact fun v f2 f3 hh => disjointTy_sound h ⟨valid_ty ha hh.1, valid_ty hb hh.2⟩
    · cases h

theorem apart_sound {a b : Schema} (h : apart d a b = true) : Disj x d a b := by
  intro v f2 f3 hh
  obtain ⟨fa, ha⟩ := valid_deref hh.1
  obtain ⟨fb, hb⟩ := valid_deref hh.2
  exact apart0_sound h v fa fb ⟨ha, hb⟩

theorem pairwiseApart_sound : ∀ (xs : List Schema), pairwiseApart d xs = true → List.Pairwise (Disj x d) xs
  | [], _ => .nil
  | a :: r, h => by
    simp only [pairwiseApart, Bool.and_eq_true, List.all_eq_true] at h
    exact .cons (fun b hb => apart_sound (h.1 b hb)) (pairwiseApart_sound r h.2)

end TypifyModel.Merge
