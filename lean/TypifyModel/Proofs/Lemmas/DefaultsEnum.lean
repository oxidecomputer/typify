import TypifyModel.Proofs.Lemmas.DefaultsStruct
/-! C06: the steps for structs and externally tagged enums, and the induction on fuel (`good_all`). -/
namespace TypifyModel.Defaults
open TypifyModel TypifyModel.Serde

theorem find_idx {vs : List Variant} {s : String} {v : Variant} (h : findVariant vs s = some v) :
    ∃ i, vs.findIdx? (fun v => v.wire == s) = some i ∧ vs[i]? = some v := by
  have hp : (fun v : Variant => v.wire == s) = fun v => v.rawName == s :=
    funext fun v => by rw [v.wire_eq_raw]
  rw [hp]
  rw [findVariant, List.find?_eq_bind_findIdx?_getElem?] at h
  exact Option.bind_eq_some_iff.mp h

theorem ident_idx {vs : List Variant} (hnd : nodupStrings (vs.map (·.identName)) = true) :
    ∀ {i : Nat} {v : Variant}, vs[i]? = some v →
      findIdxByIdent vs v.identName = some i ∧ findByIdent vs v.identName = some v := by
  have key : ∀ {i : Nat} {v : Variant}, vs[i]? = some v → findIdxByIdent vs v.identName = some i := by
    induction vs with
    | nil => intro i v h; cases h
    | cons a r ih =>
      simp only [List.map_cons, nodupStrings, Bool.and_eq_true, Bool.not_eq_true'] at hnd
      intro i v h
      cases i with
      | zero =>
        cases h
        simp only [findIdxByIdent, List.findIdx?_cons, beq_self_eq_true, if_true]
      | succ i =>
        rw [List.getElem?_cons_succ] at h
        have hne : (a.identName == v.identName) = false := by
          refine Bool.eq_false_iff.mpr fun hc => ?_
          have hm : (r.map (·.identName)).contains a.identName = true := by
            simp only [List.contains_iff_mem, List.mem_map]
            exact ⟨v, List.mem_of_getElem? h, (beq_iff_eq.mp hc).symm⟩
          rw [hm] at hnd
          cases hnd.1
        have := ih hnd.2 h
        simp only [findIdxByIdent] at this ⊢
        simp only [List.findIdx?_cons, hne, Bool.false_eq_true, if_false, this, Option.map_some]
  intro i v h
  refine ⟨key h, ?_⟩
  rw [findByIdent, List.find?_eq_bind_findIdx?_getElem?]
  exact Option.bind_eq_some_iff.mpr ⟨i, key h, h⟩

variable {x : Ext} {σ : Space} {n : Nat} {t : Id} {d : Json} {k : DKind} {ed : List String} {im : List Impl}
  {name : String} {tag : Tag} {vs : List Variant} {deny : Bool} {dflt' : Option Json} {bes : List Bespoke}

theorem body_out (ih : Good x σ n) (hg : σ.get t = some ⟨.enum name tag vs deny dflt' bes, ed, im⟩)
    {v : Variant} (hj : findByIdent vs v.identName = some v) (strict : Bool) {j : Json}
    (hv : validateBody σ n (validateValue x σ n) v.details j = .ok k)
    (hw : wfBody σ n (validateValue x σ n) (WFDefault x σ n) v.details j = true) :
    ∃ e, valueForBody σ (outputValue x σ n) name v strict j = .ok e ∧ hasType σ (n + 1) e t = true ∧
      ((∃ args, e = .variantTuple name v.identName args) ∨ ∃ fs, e = .variantStruct name v.identName fs) ∧
      ∀ m deny, Sim (evalBody x σ m v.details e) (deVariantBody x σ m v.details deny true j) := by
  obtain ⟨raw, ident, det⟩ := v
  unfold validateBody at hv
  unfold wfBody at hw
  simp only [valueForBody, hasType, hg]
  cases det with
  | simple => cases hv
  | item t' =>
    obtain ⟨e, ho, hh, hr⟩ := ih t' j k hv hw
    refine ⟨.variantTuple name ident [e], by simp only [ho], ?_, .inl ⟨_, rfl⟩, fun m deny => ?_⟩
    · simp only [hj, hh, beq_self_eq_true, Bool.and_self]
    · cases m with
      | zero => exact .fuel
      | succ m => exact hr m
  | tuple ts =>
    obtain ⟨xs, es, rfl, ho, hh, hl, hr⟩ := tuple_out ih hv (fun xs hd => by subst hd; exact hw)
    refine ⟨variantTupleExpr name ident es, by simp only [ho], ?_, .inl ?_, fun m deny => ?_⟩
    · unfold variantTupleExpr tupleExpr
      cases h1 : ts.length == 1 <;> simp only [hj, hh, hl, h1, beq_self_eq_true, Bool.and_self, Bool.false_eq_true, if_false, if_true]
    · unfold variantTupleExpr; split <;> exact ⟨_, rfl⟩
    · cases m with
      | zero => exact .fuel
      | succ m =>
        unfold evalBody deVariantBody variantTupleExpr tupleExpr tupleArgs
        cases hc : ts.length == 1 <;>
        · simp only [hl, hc, Bool.false_eq_true, if_false, if_true]
          exact (hr m).lift (fun _ => .ok _) fun _ => .err
  | struct ps =>
    obtain ⟨kvs, fs, rfl, ho, hh, hr⟩ := struct_out x σ n ih ps j k hv hw
    refine ⟨.variantStruct name ident fs, by simp only [ho], ?_, .inr ⟨_, rfl⟩, fun m deny => ?_⟩
    · simp only [hj, hh, beq_self_eq_true, Bool.and_self]
    · cases m with
      | zero => exact .fuel
      | succ m => exact hr m deny

section
variable (hv : validateValue x σ (n + 1) t d = .ok k) (hw : WFDefault x σ (n + 1) t d = true) (ih : Good x σ n)
include hv hw ih

theorem step_struct {props : List Field} (hg : σ.get t = some ⟨.struct name props deny dflt', ed, im⟩) :
    GoodAt x σ (n + 1) t d := by
  simp only [validateValue, WFDefault, hg] at hv hw
  obtain ⟨kvs, fs, rfl, ho, hh, hr⟩ := struct_out x σ n ih props d k hv hw
  refine goodAt_succ (.structLit name fs) ?_
  simp only [outputValue, hasType, eval, de, hg, ho, hh, beq_self_eq_true, Bool.and_self, true_and]
  exact fun m => hr m deny

theorem step_enum (hg : σ.get t = some ⟨.enum name tag vs deny dflt' bes, ed, im⟩) : GoodAt x σ (n + 1) t d := by
  simp only [validateValue, WFDefault, hg, Bool.and_eq_true] at hv hw
  obtain ⟨hnd, hw⟩ := hw
  cases tag with
  | external =>
    unfold validateExternal at hv
    simp only at hv hw
    cases d with
    | str s =>
      simp only at hv
      cases hf : findVariant vs s with
      | none => simp only [hf] at hv; cases hv
      | some v =>
        obtain ⟨i, hi1, hi2⟩ := find_idx hf
        obtain ⟨hj1, hj2⟩ := ident_idx hnd hi2
        obtain ⟨raw, ident, det⟩ := v
        simp only [hf] at hv
        cases det with
        | simple =>
          refine goodAt_succ (.variantUnit name ident) ?_
          simp only [outputValue, hasType, eval, de, hg, valueForExternal, hf, isSimple, hj1, hj2, hi1, hi2, if_true, beq_self_eq_true, Bool.and_self, true_and]
          exact fun _ => .ok _
        | _ => cases hv
    | obj kvs =>
      cases kvs with
      | nil => cases hv
      | cons kv rest =>
        obtain ⟨key, body⟩ := kv
        cases rest with
        | cons a b => cases hv
        | nil =>
          simp only at hv hw
          cases hf : findVariant vs key with
          | none => simp only [hf] at hv; cases hv
          | some v =>
            simp only [hf] at hv hw
            obtain ⟨i, hi1, hi2⟩ := find_idx hf
            obtain ⟨hj1, hj2⟩ := ident_idx hnd hi2
            obtain ⟨e, ho, hh, hshape, hr⟩ := body_out ih hg hj2 false hv hw
            refine goodAt_succ e ⟨?_, hh, fun m => ?_⟩
            · simp only [outputValue, hg, valueForExternal, hf, ho]
            · rcases hshape with ⟨args, rfl⟩ | ⟨fs, rfl⟩ <;>
              · simp only [eval, de, hg, hj1, hi1, hi2, List.all_nil, Bool.not_true, Bool.false_eq_true, if_false]
                exact (hr m deny).lift (fun _ => .ok _) fun _ => .err
    | _ => cases hv
  | _ => cases hw

end

theorem good_all (x : Ext) (σ : Space) : ∀ n, Good x σ n := by
  intro n
  induction n with
  | zero => intro t d k hv _; cases hv
  | succ n ih =>
    intro t d k hv hw
    obtain ⟨_, det, ed, im, hn, hg, hdet⟩ := accepted_entry hv hw
    cases hn
    cases det with
    | struct => exact step_struct hv hw ih hg
    | «enum» => exact step_enum hv hw ih hg
    | newtype => exact step_newtype hv hw ih hg
    | option => exact step_option hv hw ih hg
    | box => exact step_box hv hw ih hg
    | vec => exact step_vec hv hw ih hg
    | map => exact step_map hv hw ih hg
    | set => exact step_set hv hw ih hg
    | tuple => exact step_tuple hv hw ih hg
    | array => exact step_array hv hw ih hg
    | unit => exact step_unit hv hg
    | boolean => exact step_boolean hv hg
    | integer => exact step_integer hv hw hg
    | float => exact step_float hv hw hg
    | string => exact step_string hv hg
    | jsonValue => exact step_jsonValue hg
    | native => exact hdet.elim
    | reference => exact hdet.elim

end TypifyModel.Defaults
