import TypifyModel.Proofs.Lemmas.MergeSub
/-! C09: `try_merge_with_each_subschema` — distribution over `oneOf` / `anyOf`. -/
namespace TypifyModel.Merge
open TypifyModel TypifyModel.Validate

variable {x : Ext} {d : Doc}

theorem countV_def_mem {g : Schema → Option Bool} : ∀ {xs : List Schema} {n : Nat}, countV g xs = some n →
    ∀ y ∈ xs, ∃ c, g y = some c
  | _ :: _, _, h, y, hy => by
    obtain ⟨c, k, hc, hk, _⟩ := countV_cons_some h
    cases hy with
    | head => exact ⟨c, hc⟩
    | tail _ hy => exact countV_def_mem hk y hy

theorem allV_cons_ex {s : Schema} {r : List Schema} {v : Json} {p q : Bool} (h1 : ∃ f, valid x d f s v = some p)
    (h2 : ∃ f, allV (fun s => valid x d f s v) r = some q) :
    ∃ f, allV (fun s => valid x d f s v) (s :: r) = some (p && q) := by
  obtain ⟨f1, h1⟩ := h1
  obtain ⟨f2, h2⟩ := h2
  refine ⟨max f1 f2, ?_⟩
  rw [allV, valid_mono x d (Nat.le_max_left f1 f2) h1,
    allV_mono (g' := fun s => valid x d (max f1 f2) s v) (fun _ _ => valid_mono x d (Nat.le_max_right f1 f2)) r q h2]
  rfl

theorem countV_cons_ex {s : Schema} {r : List Schema} {v : Json} {c : Bool} {k : Nat} (h1 : ∃ f, valid x d f s v = some c)
    (h2 : ∃ f, countV (fun s => valid x d f s v) r = some k) :
    ∃ f, countV (fun s => valid x d f s v) (s :: r) = some (if c then k + 1 else k) := by
  obtain ⟨f1, h1⟩ := h1
  obtain ⟨f2, h2⟩ := h2
  refine ⟨max f1 f2, ?_⟩
  simp only [countV]
  rw [valid_mono x d (Nat.le_max_left f1 f2) h1,
    countV_mono (g' := fun s => valid x d (max f1 f2) s v) (fun _ _ => valid_mono x d (Nat.le_max_right f1 f2)) r k h2]

theorem nots_verdict (v : Json) : ∀ (others : List Schema), (∀ y ∈ others, ∃ f c, valid x d f y v = some c) →
    ∃ F z, allV (fun s => valid x d F s v) (others.map Schema.not) = some z ∧
      ((∀ y ∈ others, ∀ f, valid x d f y v ≠ some true) → z = true)
  | [], _ => ⟨0, true, rfl, fun _ => rfl⟩
  | y :: r, hdef => by
    obtain ⟨f, c, hy⟩ := hdef y (.head _)
    obtain ⟨F', z', hz', hz2⟩ := nots_verdict v r fun y' hy' => hdef y' (.tail _ hy')
    obtain ⟨F, hF⟩ := allV_cons_ex (s := .not y) ⟨f + 1, by rw [valid_not, hy]; rfl⟩ ⟨F', hz'⟩
    refine ⟨F, _, hF, fun hnt => ?_⟩
    rw [hz2 fun y' hy' => hnt y' (.tail _ hy')]
    cases c with
    | false => rfl
    | true => exact absurd hy (hnt y (.head _) f)

/-- the third alternative of `br` in `distGo` -/
theorem subtracted_verdict {so xi : Schema} {others : List Schema} {v : Json} {f2 f3 : Nat} {ba c : Bool}
    (hso : valid x d f2 so v = some ba) (hx : valid x d f3 xi v = some c)
    (hdef : ∀ y ∈ others, ∃ f c, valid x d f y v = some c)
    (hdisj : c = true → ∀ y ∈ others, ∀ f, valid x d f y v ≠ some true) :
    ∃ F, valid x d F (.allOf (so :: xi :: others.map Schema.not)) v = some (ba && c) := by
  obtain ⟨F0, z, hz, hz2⟩ := nots_verdict v others hdef
  obtain ⟨F, hF⟩ := allV_cons_ex ⟨f2, hso⟩ (allV_cons_ex ⟨f3, hx⟩ ⟨F0, hz⟩)
  refine ⟨F + 1, hF.trans (congrArg some ?_)⟩
  cases c with
  | false => simp
  | true => rw [hz2 (hdisj rfl)]; simp

/-- the emitted branches count, among the instances of `so`, what the given ones count -/
theorem distGo_sem {rec : Schema → Schema → MR} (hrec : RecOK x d rec) (fr : Nat) (so : Schema) (all : List Schema)
    (v : Json) (f2 : Nat) (ba : Bool) (hso : valid x d f2 so v = some ba)
    (hdef : ∀ y ∈ all, ∃ f c, valid x d f y v = some c)
    (hpw : ∀ (i j : Nat) yi yj, i ≠ j → all[i]? = some yi → all[j]? = some yj → Disj x d yi yj) :
    ∀ (rest : List Schema) (i : Nat) (bs : List Schema), distGo rec fr so all i rest = some (bs, []) →
      (∀ j y, rest[j]? = some y → all[i + j]? = some y) →
      ∀ f3 n, countV (fun s => valid x d f3 s v) rest = some n →
      ∃ F, countV (fun s => valid x d F s v) bs = some (if ba then n else 0)
  | [], i, bs, h, _, f3, n, hn => by cases h; cases hn; exact ⟨0, by cases ba <;> rfl⟩
  | xi :: rest', i, bs, h, hidx, f3, n, hn => by
    obtain ⟨c, n', hc, hn', rfl⟩ := countV_cons_some hn
    have hxi : all[i]? = some xi := hidx 0 xi rfl
    have ih := fun bs' h' => distGo_sem hrec fr so all v f2 ba hso hdef hpw rest' (i + 1) bs' h'
      (fun j y hj => by rw [Nat.add_right_comm, Nat.add_assoc]; exact hidx (j + 1) y hj) f3 n' hn'
    simp only [distGo] at h
    have hs := hrec so xi
    generalize distGo rec fr so all (i + 1) rest' = go at h ih
    generalize rec so xi = r at h hs
    cases r with
    | unsup => cases h
    | never g =>
      cases go with
      | none => cases h
      | some bg =>
        obtain ⟨rfl, hg⟩ := Prod.mk.inj (Option.some.inj h)
        obtain ⟨rfl, hg'⟩ := List.append_eq_nil_iff.mp hg
        obtain ⟨F, hF⟩ := ih bg.1 (by rw [← hg'])
        refine ⟨F, hF.trans ?_⟩
        cases ba with
        | false => rfl
        | true => cases c with
          | false => rfl
          | true => exact absurd ⟨hso, hc⟩ (hs v f2 f3)
    | ok m g =>
      cases go with
      | none => cases h
      | some bg =>
        obtain ⟨rfl, hg⟩ := Prod.mk.inj (Option.some.inj h)
        simp only [List.append_eq_nil_iff] at hg
        obtain ⟨⟨rfl, hbr2⟩, hg'⟩ := hg
        obtain ⟨f1, hf1⟩ := hs v f2 f3 ba c hso hc
        refine (countV_cons_ex (c := ba && c) ?_ (ih bg.1 (by rw [← hg']))).imp fun F hF => hF.trans ?_
        · split
          · rename_i hro
            rw [if_pos hro] at hbr2
            rw [roughGap_nil hbr2 f1 v] at hf1
            exact ⟨f1, hf1⟩
          · rename_i hro
            split
            · rename_i hrx
              rw [if_neg hro, if_pos hrx] at hbr2
              rw [roughGap_nil hbr2 f1 v] at hf1
              exact ⟨f1, hf1⟩
            · refine subtracted_verdict hso hc (fun y hy => hdef y (List.mem_of_mem_eraseIdx hy)) fun hct y hy f hyv => ?_
              obtain ⟨j, hji, hj⟩ := List.mem_eraseIdx_iff_getElem?.mp hy
              exact hpw i j xi y (fun e => hji e.symm) hxi hj v f3 f ⟨hct ▸ hc, hyv⟩
        · cases ba <;> cases c <;> rfl

theorem hpw_of_cond {xs : List Schema} (h : (decide (xs.length ≤ 1) || pairwiseApart d xs) = true) :
    ∀ (i j : Nat) yi yj, i ≠ j → xs[i]? = some yi → xs[j]? = some yj → Disj x d yi yj := by
  intro i j yi yj hij hi hj
  obtain ⟨hil, rfl⟩ := List.getElem?_eq_some_iff.mp hi
  obtain ⟨hjl, rfl⟩ := List.getElem?_eq_some_iff.mp hj
  simp only [Bool.or_eq_true, decide_eq_true_eq] at h
  rcases h with h | h
  · omega
  · have hp := List.pairwise_iff_getElem.mp (pairwiseApart_sound (x := x) xs h)
    by_cases hlt : i < j
    · exact hp i j hil hjl hlt
    · exact (hp j i hjl hil (by omega)).symm

def cntTest : Bool → Nat → Bool
  | true, n => n == 1
  | false, n => decide (0 < n)

theorem valid_cnt_eq (one : Bool) (xs : List Schema) (f : Nat) (v : Json) :
    valid x d (f + 1) (if one then Schema.oneOf xs else Schema.anyOf xs) v =
      (countV (fun s => valid x d f s v) xs).map (cntTest one) := by
  cases one <;> rfl

theorem valid_cnt (one : Bool) (xs : List Schema) {f : Nat} {v : Json} {bb : Bool}
    (h : valid x d f (if one then Schema.oneOf xs else Schema.anyOf xs) v = some bb) :
    ∃ f' n, countV (fun s => valid x d f' s v) xs = some n ∧ bb = cntTest one n := by
  obtain ⟨f', rfl⟩ := ne_zero_of_valid h
  rw [valid_cnt_eq] at h
  obtain ⟨n, hn, hb⟩ := Option.map_eq_some_iff.mp h
  exact ⟨f', n, hn, hb.symm⟩

theorem dist_spec {rec : Schema → Schema → MR} (hrec : RecOK x d rec) (fr : Nat) (so : Schema) (xs : List Schema)
    (one : Bool) : Spec x d (dist rec d fr so xs one) so (if one then .oneOf xs else .anyOf xs) := by
  unfold dist
  cases hd : distGo rec fr so xs 0 xs with
  | none => trivial
  | some bg =>
    obtain ⟨bs, g⟩ := bg
    simp only
    cases hgg : g ++ (if (decide (xs.length ≤ 1) || pairwiseApart d xs) = true then [] else [Gap.overlap]) with
    | cons _ _ => split <;> trivial
    | nil =>
      obtain ⟨rfl, hflag⟩ := List.append_eq_nil_iff.mp hgg
      have hpw := hpw_of_cond (x := x) (xs := xs) (by revert hflag; split; exact fun _ => ‹_›; exact fun h => nomatch h)
      have key : ∀ v f2 ba f3 bb, valid x d f2 so v = some ba →
          valid x d f3 (if one then Schema.oneOf xs else Schema.anyOf xs) v = some bb →
          ∃ F n, countV (fun s => valid x d F s v) bs = some (if ba then n else 0) ∧ bb = cntTest one n := by
        intro v f2 ba f3 bb hso h3
        obtain ⟨f3', n, hn, hbb⟩ := valid_cnt one xs h3
        obtain ⟨F, hF⟩ := distGo_sem hrec fr so xs v f2 ba hso (fun y hy => ⟨f3', countV_def_mem hn y hy⟩) hpw xs 0 bs hd
          (fun j y hj => by rwa [Nat.zero_add]) f3' n hn
        exact ⟨F, n, hF, hbb⟩
      match bs, key with
      | [], key =>
        intro v f2 f3 ⟨h2, h3⟩
        obtain ⟨F, n, hF, hbb⟩ := key _ _ _ _ _ h2 h3
        cases Option.some.inj hF
        cases one <;> cases hbb
      | [b], key =>
        intro v f2 f3 ba bb h2 h3
        obtain ⟨F, n, hF, rfl⟩ := key _ _ _ _ _ h2 h3
        obtain ⟨vb, _, hvb, hk', hk⟩ := countV_cons_some hF
        cases hk'
        refine ⟨F, hvb.trans (congrArg some ?_)⟩
        cases ba <;> cases vb <;> cases one <;> simp [cntTest] at hk ⊢ <;> omega
      | b1 :: b2 :: bs', key =>
        intro v f2 f3 ba bb h2 h3
        obtain ⟨F, n, hF, rfl⟩ := key _ _ _ _ _ h2 h3
        refine ⟨F + 1, ?_⟩
        rw [valid_cnt_eq, hF]
        cases ba <;> cases one <;> rfl

end TypifyModel.Merge
