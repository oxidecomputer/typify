import TypifyModel.Proofs.Lemmas.SpaceInv
/-! C16 helpers for `no_dup_defs`: which names a conversion can register (`assigned`, syntactic), the
    property `NameInj` (every named entry is the one `name_to_id` points to — hence names are unique),
    its unconditional preservation by `assign_type` / `convertLite` / `add_type_with_name`, and its
    preservation by a batch under the named hypotheses `DistinctBatches` and `NoNameCollision`. -/
set_option autoImplicit false
namespace TypifyModel.Space
open TypifyModel.Names (Str)

/-- the names `convertLite f n s` can hand to `assign_type` (inline types below the top level) -/
def assigned : Nat → Name → Sch → List Str
  | 0, _, _ => []
  | f + 1, n, s =>
    match s with
    | .arr t item => (topName (itemName n t) item).toList ++ assigned f (itemName n t) item
    | .nullable inner => (topName (innerName n) inner).toList ++ assigned f (innerName n) inner
    | .obj t props _ _ =>
      props.flatMap (fun p => (topName (propName (getTypeName n t) p.1) p.2).toList
                              ++ assigned f (propName (getTypeName n t) p.1) p.2)
    | _ => []

/-- the name of the entry `convert_ref_type` puts at a definition's id -/
def defName (d : RefKey × Sch) : Option Str := getTypeName (keyName d.1) d.2.title

def batchNames (defs : List (RefKey × Sch)) : List Str := defs.filterMap defName

def batchAssigned (fuel : Nat) (defs : List (RefKey × Sch)) : List Str :=
  defs.flatMap (fun d => assigned fuel (keyName d.1) d.2)

/-- hypothesis: the names of the batch's definitions (sanitised keys, title of the root) are pairwise
    distinct, and no inline type of the batch takes one of them -/
def NoNameCollision (fuel : Nat) (defs : List (RefKey × Sch)) : Prop :=
  (batchNames defs).Nodup ∧ ∀ x ∈ batchNames defs, x ∉ batchAssigned fuel defs

/-- hypothesis: no name of the batch's definitions is taken in the space already (in particular no
    definition is added a second time) -/
def DistinctBatches (defs : List (RefKey × Sch)) (σ : State) : Prop :=
  ∀ x ∈ batchNames defs, alookup σ.nameToId x = none

instance (fuel : Nat) (defs : List (RefKey × Sch)) : Decidable (NoNameCollision fuel defs) := by
  unfold NoNameCollision; infer_instance

instance (defs : List (RefKey × Sch)) (σ : State) : Decidable (DistinctBatches defs σ) := by
  unfold DistinctBatches; infer_instance

/-- `m` is bound in `name_to_id` -/
def HasName (σ : State) (m : Str) : Prop := alookup σ.nameToId m ≠ none

theorem hasName_of_eq_some {σ : State} {m : Str} {i : Nat} (h : alookup σ.nameToId m = some i) :
    HasName σ m := fun hn => by rw [h] at hn; cases hn

theorem HasName.get {σ : State} {m : Str} (h : HasName σ m) : ∃ i, alookup σ.nameToId m = some i :=
  Option.ne_none_iff_exists'.mp h

theorem hasName_congr {σ σ' : State} {m : Str} (h : σ'.nameToId = σ.nameToId) :
    HasName σ' m ↔ HasName σ m := by
  unfold HasName; rw [h]

theorem insertDef_hasName {σ : State} {nm m : Str} {tid : Nat} {ent : Details} :
    HasName (insertDef σ nm tid ent) m ↔ nm = m ∨ HasName σ m := by
  unfold HasName
  change alookup ((nm, tid) :: σ.nameToId) m ≠ none ↔ _
  rw [alookup_cons]
  split <;> simp [*]

theorem assignType_hasName {e : Details} {σ : State} {m : Str} :
    HasName (assignType e σ).2 m ↔ HasName σ m ∨ e.name? = some m := by
  have hc := assignType_cases e σ
  generalize assignType e σ = p at hc ⊢
  cases hc with
  | ref t ht => simp [refTarget_unnamed ht]
  | nameHit n i _ hn hi =>
    refine ⟨Or.inl, fun h => h.elim id (fun h => ?_)⟩
    rw [hn] at h; cases h; exact hasName_of_eq_some hi
  | typeHit i _ hn _ => simp [hn]
  | new =>
    unfold HasName
    rw [alloc_name]
    split <;> simp [*]

theorem propResult_hasName {req : List Str} {pn : Str} {p : Nat × State} {fld : Field} {σ' : State}
    {m : Str} (h : propResult req pn p = .ok (fld, σ')) : HasName σ' m ↔ HasName p.2 m := by
  rcases (propResult_cases h).2 with ⟨_, hq⟩ | ⟨_, hq⟩
  · subst hq; exact Iff.rfl
  · have : σ' = (assignType (.option p.1) p.2).2 := congrArg Prod.snd hq
    rw [this]
    exact assignType_hasName.trans (or_iff_left (fun h => nomatch h))

theorem assigned_hasName {f : Nat} {n : Name} {s : Sch} {σ σ1 : State} {e : Details} {m : Str}
    {A : List Str} (hc : convertLite f n s σ = .ok (e, σ1))
    (ih : HasName σ1 m ↔ HasName σ m ∨ m ∈ A) :
    HasName (assignType e σ1).2 m ↔ HasName σ m ∨ m ∈ (topName n s).toList ++ A := by
  rw [assignType_hasName, ih, convertLite_name hc, List.mem_append, Option.mem_toList]
  exact or_assoc.trans (or_congr_right or_comm)

theorem convertLite_hasName : ∀ (f : Nat) (n : Name) (s : Sch) (σ σ' : State) (e : Details),
    convertLite f n s σ = .ok (e, σ') → ∀ m, HasName σ' m ↔ HasName σ m ∨ m ∈ assigned f n s := by
  apply convertLite_induct
    (C := fun f n s σ _ σ' => ∀ m, HasName σ' m ↔ HasName σ m ∨ m ∈ assigned f n s)
    (M := fun f base _ ps σ _ σ' => ∀ m, HasName σ' m ↔ HasName σ m ∨ m ∈ ps.flatMap (fun p =>
      (topName (propName base p.1) p.2).toList ++ assigned f (propName base p.1) p.2))
  case str => exact fun _ => (or_iff_left List.not_mem_nil).symm
  case int => exact fun _ => (or_iff_left List.not_mem_nil).symm
  case bool => exact fun _ => (or_iff_left List.not_mem_nil).symm
  case ref => exact fun _ _ => (or_iff_left List.not_mem_nil).symm
  case enumStr => exact fun _ _ _ _ => (or_iff_left List.not_mem_nil).symm
  case nil => exact fun _ => (or_iff_left List.not_mem_nil).symm
  case arr => exact fun hc ih m => assigned_hasName hc (ih m)
  case nullable => exact fun hc ih m => assigned_hasName hc (ih m)
  case obj => exact fun _ ih _ => ih
  case cons =>
    refine fun hc ih hprop _ iht m => ?_
    rw [iht m, propResult_hasName hprop, assigned_hasName hc (ih m), List.flatMap_cons]
    simp only [List.mem_append, or_assoc]

/-! ### `NameInj`: `name_to_id` is the inverse of "entry `i` has name `n`" -/

/-- every named entry is the one its name is bound to -/
def NameInj (σ : State) : Prop :=
  ∀ i e n, σ.entry i = some e → e.name? = some n → alookup σ.nameToId n = some i

/-- the named entries have pairwise distinct names -/
def NoDupDefs (σ : State) : Prop :=
  ∀ i j e1 e2 n, σ.entry i = some e1 → σ.entry j = some e2 → e1.name? = some n → e2.name? = some n → i = j

theorem NameInj.noDup {σ : State} (h : NameInj σ) : NoDupDefs σ := by
  intro i j e1 e2 n h1 h2 n1 n2
  have a := h i e1 n h1 n1
  have b := h j e2 n h2 n2
  rw [a] at b; exact Option.some.inj b

theorem nameInj_init : NameInj Space.init := by
  intro i e n h; simp [State.entry, Space.init, alookup] at h

/-- `NameInj` survives putting an entry at id `i` when old bindings are kept and the new entry's
    name, if it has one, is bound to `i` -/
theorem NameInj.add {σ σ' : State} {i : Nat} {e : Details} (h : NameInj σ)
    (hent : ∀ j, σ'.entry j = if i = j then some e else σ.entry j)
    (hnew : ∀ n, e.name? = some n → alookup σ'.nameToId n = some i)
    (hold : ∀ m j, alookup σ.nameToId m = some j → alookup σ'.nameToId m = some j) : NameInj σ' := by
  intro j d m hd hm
  rw [hent] at hd
  split at hd
  · rename_i hij; cases hd; rw [← hij]; exact hnew m hm
  · exact hold m j (h j d m hd hm)

theorem assignType_nameInj (e : Details) (σ : State) (_hi : Inv σ) (_hids : ∀ c ∈ e.ids, c < σ.nextId)
    (h : NameInj σ) : NameInj (assignType e σ).2 := by
  have hx := assignType_ext e σ
  have hc := assignType_cases e σ
  generalize assignType e σ = p at hc hx ⊢
  cases hc with
  | ref => exact h
  | nameHit => exact h
  | typeHit => exact h
  | new => exact h.add (alloc_entry σ e) (fun n hn => by rw [alloc_name, if_pos hn]) hx.name

theorem Finalized.nameInj {σ σ' : State} (hf : Finalized σ σ') (h : NameInj σ) : NameInj σ' := by
  intro i e' n h' hn
  obtain ⟨e, h1, _, _, hname⟩ := hf.back h'
  rw [hf.name]
  exact h i e n h1 (by rw [← hname]; exact hn)

theorem insertDef_nameInj {σ : State} {nm : Str} {tid : Nat} {ent : Details} (h : NameInj σ)
    (hn : ent.name? = some nm) (hfresh : ¬ HasName σ nm) : NameInj (insertDef σ nm tid ent) :=
  h.add (insertDef_entry σ nm tid ent)
    (fun n hn' => by rw [hn] at hn'; cases hn'; exact alookup_cons_self _ _ _)
    (fun m j hm => by
      have hne : nm ≠ m := fun hnm => hfresh (hasName_of_eq_some (hnm ▸ hm))
      exact (alookup_cons_ne _ _ hne).trans hm)

theorem convertRefType_hasName {fuel : Nat} {n : Name} {s : Sch} {tid : Nat} {σ σ' : State} {m : Str}
    (h : convertRefType fuel n s tid σ = .ok σ') :
    HasName σ' m ↔ HasName σ m ∨ m ∈ assigned fuel n s ∨ getTypeName n s.title = some m := by
  obtain ⟨e, σ1, nm, h1, hg, hc⟩ := convertRefType_ok h
  have h2 : HasName σ' m ↔ nm = m ∨ HasName σ1 m := by
    rcases hc with ⟨_, rfl⟩ | ⟨hnone, rfl⟩
    · exact insertDef_hasName
    · rw [insertDef_hasName, assignType_hasName, hnone]
      exact or_congr_right (or_iff_left (fun h => nomatch h))
  rw [h2, convertLite_hasName _ _ _ _ _ _ h1 m, hg, Option.some.injEq]
  exact or_comm.trans or_assoc

theorem convertRefType_nameInj {fuel : Nat} {n : Name} {s : Sch} {tid : Nat} {σ σ' : State}
    (h : convertRefType fuel n s tid σ = .ok σ') (hi : Inv σ) (hinj : NameInj σ)
    (hfresh : ∀ nm, getTypeName n s.title = some nm → ¬ HasName σ nm ∧ nm ∉ assigned fuel n s) :
    NameInj σ' := by
  obtain ⟨e, σ1, nm, h1, hg, hc⟩ := convertRefType_ok h
  obtain ⟨hf1, hf2⟩ := hfresh nm hg
  obtain ⟨⟨i1, hids⟩, inj1⟩ := convertLite_inv_and assignType_nameInj _ _ _ _ _ _ h1 hi hinj
  have fresh1 : ¬ HasName σ1 nm := fun hn =>
    ((convertLite_hasName _ _ _ _ _ _ h1 nm).mp hn).elim hf1 hf2
  rcases hc with ⟨hn, rfl⟩ | ⟨hnone, rfl⟩
  · exact insertDef_nameInj inj1 hn fresh1
  · refine insertDef_nameInj (assignType_nameInj e σ1 i1 hids inj1) rfl (fun hn => ?_)
    rcases assignType_hasName.mp hn with h3 | h3
    · exact fresh1 h3
    · rw [hnone] at h3; cases h3

theorem reserved_nameInj {defs : List (RefKey × Sch)} {σ : State} (h : NameInj σ) :
    NameInj (reserved defs σ) := by
  intro i e n he hn
  rw [reserved_entry] at he
  rw [reserved_nameToId]; exact h i e n he hn

theorem batchNames_cons (d : RefKey × Sch) (r : List (RefKey × Sch)) :
    batchNames (d :: r) = (defName d).toList ++ batchNames r := by
  unfold batchNames
  cases hd : defName d <;> simp [hd]

theorem addRefTypesImpl_nameInj {fuel : Nat} {defs : List (RefKey × Sch)} {σ σ' : State}
    (h : addRefTypesImpl fuel defs σ = .ok σ') (hi : Inv σ) (hinj : NameInj σ)
    (hd : DistinctBatches defs σ) (hc : NoNameCollision fuel defs) : NameInj σ' := by
  obtain ⟨σ2, h2, hs, _⟩ := addRefTypesImpl_steps h
  -- along the loop: the names of the definitions still to come are pairwise distinct, taken by no
  -- inline type of a definition still to come, and not bound yet
  let P : List (RefKey × Sch) → Nat → State → Prop := fun r _ τ =>
    NameInj τ ∧ (batchNames r).Nodup ∧
    (∀ x ∈ batchNames r, ∀ d ∈ r, x ∉ assigned fuel (keyName d.1) d.2) ∧
    (∀ x ∈ batchNames r, ¬ HasName τ x)
  have hfin := convertDefs_ind_inv (P := P) hi (by
    intro k s r i τ τ1 _ it _ _ hp hcv
    obtain ⟨inj, hnd, hdis, hfr⟩ := hp
    rw [batchNames_cons] at hnd hdis hfr
    have hfresh : ∀ nm, getTypeName (keyName k) s.title = some nm →
        ¬ HasName τ nm ∧ nm ∉ assigned fuel (keyName k) s := by
      intro nm hnm
      have hmem : nm ∈ (defName (k, s)).toList ++ batchNames r := by
        simp only [defName, hnm, Option.toList_some, List.singleton_append, List.mem_cons, true_or]
      exact ⟨hfr nm hmem, hdis nm hmem (k, s) List.mem_cons_self⟩
    refine ⟨convertRefType_nameInj hcv it inj hfresh, (List.nodup_append.mp hnd).2.1,
      fun x hx d hdm => hdis x (List.mem_append_right _ hx) d (List.mem_cons_of_mem _ hdm),
      fun x hx hn => ?_⟩
    rcases (convertRefType_hasName hcv).mp hn with h4 | h4 | h4
    · exact hfr x (List.mem_append_right _ hx) h4
    · exact hdis x (List.mem_append_right _ hx) (k, s) List.mem_cons_self h4
    · have : x ∈ (defName (k, s)).toList := by simp [defName, h4]
      exact (List.nodup_append.mp hnd).2.2 x this x hx rfl) h2
    ⟨reserved_nameInj hinj, hc.1, fun x hx d hdm hxa => hc.2 x hx (by
        unfold batchAssigned; exact List.mem_flatMap.mpr ⟨d, hdm, hxa⟩),
      fun x hx hn => by have ⟨i, hi⟩ := ((hasName_congr (reserved_nameToId defs σ)).mp hn).get; rw [hd x hx] at hi; cases hi⟩
  exact hs.nameInj hfin.1.1

theorem addTypeWithName_nameInj {fuel : Nat} {s : Sch} {hint : Option Str} {σ σ' : State} {id : Nat}
    (h : addTypeWithName fuel s hint σ = .ok (id, σ')) (hi : Inv σ) (hinj : NameInj σ) : NameInj σ' := by
  obtain ⟨e, σc, σm, hc, hp, hf, _⟩ := addTypeWithName_ok h
  obtain ⟨⟨i1, hids⟩, inj1⟩ := convertLite_inv_and assignType_nameInj _ _ _ _ _ _ hc hi hinj
  have inj2 := assignType_nameInj e σc i1 hids inj1
  rw [hp] at inj2
  exact hf.nameInj inj2

end TypifyModel.Space
