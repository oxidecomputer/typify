import TypifyModel.Proofs.Lemmas.SpaceBasic
/-! C16 helpers: the invariant `Inv` of the type space and its preservation by every layer
    (`assignType`, `convertLite`, `convertRefType`, the batch loop, the finalize loop, one API call),
    and the frame property of a batch and of `add_type_with_name`. -/
set_option autoImplicit false
namespace TypifyModel.Space
open TypifyModel.Names (Str)

/-- The invariant of the type space.
    * every entry sits below `next_id`, and so does every id an entry mentions;
    * `type_to_id` maps a structure to an id holding exactly that (unnamed) structure;
    * `name_to_id` maps a name to an id holding an entry of that name;
    * `ref_to_id` maps to ids below `next_id` (filled, or pre-reserved by the running batch). -/
structure Inv (σ : State) : Prop where
  entry_lt : ∀ i e, σ.entry i = some e → i < σ.nextId
  child_lt : ∀ i e, σ.entry i = some e → ∀ c ∈ e.ids, c < σ.nextId
  type_ok : ∀ d i, alookup σ.typeToId d = some i → σ.entry i = some d ∧ d.name? = none
  name_ok : ∀ n i, alookup σ.nameToId n = some i → ∃ e, σ.entry i = some e ∧ e.name? = some n
  ref_lt : ∀ k i, alookup σ.refToId k = some i → i < σ.nextId

theorem Inv.entry_none {σ : State} (h : Inv σ) {i : Nat} (hi : σ.nextId ≤ i) : σ.entry i = none := by
  cases he : σ.entry i with
  | none => rfl
  | some e => exact absurd (h.entry_lt i e he) (Nat.not_lt.mpr hi)

theorem refTarget_mem_ids {e : Details} {t : Nat} (h : e.refTarget? = some t) : t ∈ e.ids := by
  cases e <;> simp [Details.refTarget?] at h
  subst h; simp [Details.ids]

/-- what `assign_type` allocating and `convert_ref_type` filling a reserved id have in common: an
    entry put at a free id, registered in at most one index -/
theorem Inv.add {σ σ' : State} {i : Nat} {e : Details} (h : Inv σ) (hnext : σ.nextId ≤ σ'.nextId)
    (hi : i < σ'.nextId) (hfree : σ.entry i = none)
    (hent : ∀ j, σ'.entry j = if i = j then some e else σ.entry j)
    (hids : ∀ c ∈ e.ids, c < σ'.nextId)
    (hname : ∀ m j, alookup σ'.nameToId m = some j →
      (e.name? = some m ∧ j = i) ∨ alookup σ.nameToId m = some j)
    (htype : ∀ d j, alookup σ'.typeToId d = some j →
      (d = e ∧ e.name? = none ∧ j = i) ∨ alookup σ.typeToId d = some j)
    (href : σ'.refToId = σ.refToId) : Inv σ' := by
  have old : ∀ j d, σ.entry j = some d → σ'.entry j = some d := fun j d hd => by
    rw [hent, if_neg (fun hij => by rw [hij, hd] at hfree; cases hfree)]; exact hd
  refine ⟨fun j d hd => ?_, fun j d hd c hc => ?_, fun d j hd => ?_, fun m j hm => ?_, fun k j hk => ?_⟩
  · rw [hent] at hd
    split at hd
    · rename_i hij; rw [← hij]; exact hi
    · exact Nat.lt_of_lt_of_le (h.entry_lt j d hd) hnext
  · rw [hent] at hd
    split at hd
    · cases hd; exact hids c hc
    · exact Nat.lt_of_lt_of_le (h.child_lt j d hd c hc) hnext
  · rcases htype d j hd with ⟨rfl, hn, rfl⟩ | hd
    · exact ⟨by rw [hent, if_pos rfl], hn⟩
    · exact ⟨old j d (h.type_ok d j hd).1, (h.type_ok d j hd).2⟩
  · rcases hname m j hm with ⟨hn, rfl⟩ | hm
    · exact ⟨e, by rw [hent, if_pos rfl], hn⟩
    · obtain ⟨d, hd, hdn⟩ := h.name_ok m j hm
      exact ⟨d, old j d hd, hdn⟩
  · rw [href] at hk; exact Nat.lt_of_lt_of_le (h.ref_lt k j hk) hnext

theorem assignType_inv {e : Details} {σ : State} (h : Inv σ) (hids : ∀ c ∈ e.ids, c < σ.nextId) :
    Inv (assignType e σ).2 ∧ (assignType e σ).1 < (assignType e σ).2.nextId := by
  have hc := assignType_cases e σ
  generalize assignType e σ = p at hc ⊢
  cases hc with
  | ref t ht => exact ⟨h, hids t (refTarget_mem_ids ht)⟩
  | nameHit n i _ _ hi =>
    obtain ⟨d, hd, _⟩ := h.name_ok n i hi
    exact ⟨h, h.entry_lt i d hd⟩
  | typeHit i _ _ hi => exact ⟨h, h.entry_lt i e (h.type_ok e i hi).1⟩
  | new =>
    refine ⟨h.add (Nat.le_succ _) (Nat.lt_succ_self _) (h.entry_none (Nat.le_refl _)) (alloc_entry σ e)
      (fun c hc => Nat.lt_succ_of_lt (hids c hc)) (fun m j hm => ?_) (fun d j hd => ?_) rfl,
      Nat.lt_succ_self _⟩
    · rw [alloc_name] at hm
      split at hm
      · rename_i hn; exact Or.inl ⟨hn, (Option.some.inj hm).symm⟩
      · exact Or.inr hm
    · rw [alloc_type] at hd
      split at hd
      · rename_i hed; exact Or.inl ⟨hed.2.symm, hed.1, (Option.some.inj hd).symm⟩
      · exact Or.inr hd

section preserved
/-! A state property `P` kept by `assign_type` is kept, together with the invariant, by the whole
    conversion. -/
variable {P : State → Prop}
  (hP : ∀ e σ, Inv σ → (∀ c ∈ e.ids, c < σ.nextId) → P σ → P (assignType e σ).2)
include hP

/-- `[id]` is `(.vec id).ids`, `(.option id).ids`: the conclusion has the shape of the hypothesis, so
    the steps of a conversion compose as they are -/
theorem assignType_inv_and {e : Details} {σ : State}
    (h : (Inv σ ∧ ∀ c ∈ e.ids, c < σ.nextId) ∧ P σ) :
    (Inv (assignType e σ).2 ∧ ∀ c ∈ [(assignType e σ).1], c < (assignType e σ).2.nextId) ∧
      P (assignType e σ).2 :=
  have ⟨i2, hlt⟩ := assignType_inv h.1.1 h.1.2
  ⟨⟨i2, fun c hc => by rw [List.mem_singleton.mp hc]; exact hlt⟩, hP e σ h.1.1 h.1.2 h.2⟩

theorem propResult_inv {req : List Str} {pn : Str} {p : Nat × State} {fld : Field} {σ' : State}
    (h : propResult req pn p = .ok (fld, σ'))
    (hb : (Inv p.2 ∧ ∀ c ∈ [p.1], c < p.2.nextId) ∧ P p.2) :
    (Inv σ' ∧ ∀ c ∈ [fld.ty], c < σ'.nextId) ∧ P σ' := by
  rcases (propResult_cases h).2 with ⟨_, hq⟩ | ⟨_, hq⟩
  · subst hq; exact hb
  · have := assignType_inv_and hP (e := .option p.1) hb
    rw [← hq] at this; exact this

theorem convertLite_inv_and : ∀ (f : Nat) (n : Name) (s : Sch) (σ σ' : State) (e : Details),
    convertLite f n s σ = .ok (e, σ') → Inv σ → P σ →
    (Inv σ' ∧ ∀ c ∈ e.ids, c < σ'.nextId) ∧ P σ' := by
  apply convertLite_induct
    (C := fun _ _ _ σ e σ' => Inv σ → P σ → (Inv σ' ∧ ∀ c ∈ e.ids, c < σ'.nextId) ∧ P σ')
    (M := fun _ _ _ _ σ fs σ' => Inv σ → P σ → (Inv σ' ∧ ∀ fld ∈ fs, fld.ty < σ'.nextId) ∧ P σ')
  case str => exact fun hi hp => ⟨⟨hi, fun _ hc => nomatch hc⟩, hp⟩
  case int => exact fun hi hp => ⟨⟨hi, fun _ hc => nomatch hc⟩, hp⟩
  case bool => exact fun hi hp => ⟨⟨hi, fun _ hc => nomatch hc⟩, hp⟩
  case enumStr => exact fun _ _ _ hi hp => ⟨⟨hi, fun _ hc => nomatch hc⟩, hp⟩
  case nil => exact fun hi hp => ⟨⟨hi, fun _ hm => nomatch hm⟩, hp⟩
  case ref =>
    exact fun hk hi hp => ⟨⟨hi, fun c hc => by rw [List.mem_singleton.mp hc]; exact hi.ref_lt _ _ hk⟩, hp⟩
  case arr => exact fun _ ih hi hp => assignType_inv_and hP (ih hi hp)
  case nullable => exact fun _ ih hi hp => assignType_inv_and hP (ih hi hp)
  case obj =>
    refine fun _ ih _ hi hp => ?_
    obtain ⟨⟨i1, hall⟩, p1⟩ := ih hi hp
    refine ⟨⟨i1, fun c hc => ?_⟩, p1⟩
    obtain ⟨fld, hf, rfl⟩ := List.mem_map.mp hc
    exact hall fld (mem_sortFields.mp hf)
  case cons =>
    refine fun _ ih hprop ht iht hi hp => ?_
    obtain ⟨⟨i3, hfld⟩, p3⟩ := propResult_inv hP hprop (assignType_inv_and hP (ih hi hp))
    obtain ⟨⟨i4, hall⟩, p4⟩ := iht i3 p3
    refine ⟨⟨i4, fun g hg => ?_⟩, p4⟩
    rcases List.mem_cons.mp hg with rfl | hg
    · exact Nat.lt_of_lt_of_le (hfld _ (List.mem_singleton.mpr rfl)) (structMembers_ext ht).next
    · exact hall g hg

end preserved

theorem convertLite_inv (f : Nat) (n : Name) (s : Sch) (σ σ' : State) (e : Details)
    (h : convertLite f n s σ = .ok (e, σ')) (hi : Inv σ) : Inv σ' ∧ ∀ c ∈ e.ids, c < σ'.nextId :=
  (convertLite_inv_and (P := fun _ => True) (fun _ _ _ _ _ => trivial) f n s σ σ' e h hi trivial).1

theorem property_inv {req : List Str} {pn : Str} {e : Details} {σ1 σ2 : State} {fld : Field}
    (h : propResult req pn (assignType e σ1) = .ok (fld, σ2)) (i1 : Inv σ1)
    (hids : ∀ c ∈ e.ids, c < σ1.nextId) :
    Inv (assignType e σ1).2 ∧ (assignType e σ1).1 < (assignType e σ1).2.nextId ∧ Inv σ2 :=
  have hb := assignType_inv_and (P := fun _ => True) (fun _ _ _ _ _ => trivial) ⟨⟨i1, hids⟩, trivial⟩
  ⟨hb.1.1, hb.1.2 _ (List.mem_singleton.mpr rfl),
    (propResult_inv (P := fun _ => True) (fun _ _ _ _ _ => trivial) h hb).1.1⟩

theorem finalizeEntry_ids (e : Details) : (finalizeEntry e).ids = e.ids := by
  cases e <;> rfl

theorem finalizeEntry_name (e : Details) : (finalizeEntry e).name? = e.name? := by
  cases e <;> rfl

theorem finalizeEntry_unnamed {e : Details} (h : e.name? = none) : finalizeEntry e = e := by
  cases e <;> first | rfl | simp [Details.name?] at h

theorem Finalized.back {σ σ' : State} (hf : Finalized σ σ') {i : Nat} {e' : Details}
    (h' : σ'.entry i = some e') :
    ∃ e, σ.entry i = some e ∧ (e' = e ∨ e' = finalizeEntry e) ∧ e'.ids = e.ids ∧ e'.name? = e.name? := by
  rcases hf.entry i with h | h
  · exact ⟨e', by rw [← h]; exact h', Or.inl rfl, rfl, rfl⟩
  · rw [h'] at h
    obtain ⟨e, hσ, rfl⟩ := Option.map_eq_some_iff.mp h.symm
    exact ⟨e, hσ, Or.inr rfl, finalizeEntry_ids e, finalizeEntry_name e⟩

theorem Finalized.fwd {σ σ' : State} (hf : Finalized σ σ') {i : Nat} {e : Details}
    (h : σ.entry i = some e) : σ'.entry i = some e ∨ σ'.entry i = some (finalizeEntry e) := by
  rcases hf.entry i with h1 | h1
  · exact Or.inl (by rw [h1]; exact h)
  · exact Or.inr (by rw [h1, h]; rfl)

theorem Finalized.inv {σ σ' : State} (hf : Finalized σ σ') (h : Inv σ) : Inv σ' := by
  refine ⟨fun i e' h' => ?_, fun i e' h' c hc => ?_, fun d i hd => ?_, fun n i hn => ?_, fun k i hk => ?_⟩
  · obtain ⟨e, h1, _⟩ := hf.back h'
    rw [hf.next]; exact h.entry_lt i e h1
  · obtain ⟨e, h1, _, hids, _⟩ := hf.back h'
    rw [hf.next]; exact h.child_lt i e h1 c (by rw [← hids]; exact hc)
  · rw [hf.type] at hd
    obtain ⟨h1, h2⟩ := h.type_ok d i hd
    have := hf.fwd h1
    rw [finalizeEntry_unnamed h2, or_self] at this
    exact ⟨this, h2⟩
  · rw [hf.name] at hn
    obtain ⟨e, h1, h2⟩ := h.name_ok n i hn
    rcases hf.fwd h1 with h3 | h3
    · exact ⟨e, h3, h2⟩
    · exact ⟨_, h3, by rw [finalizeEntry_name]; exact h2⟩
  · rw [hf.ref] at hk; rw [hf.next]; exact h.ref_lt k i hk

/-- the name of the entry `convertLite _ n s` answers, when it is a named one -/
def topName (n : Name) (s : Sch) : Option Str :=
  match s with
  | .obj t _ _ _ => getTypeName n t
  | .enumStr t _ => getTypeName n t
  | _ => none

theorem topName_title {n : Name} {s : Sch} {nm : Str} (h : topName n s = some nm) :
    getTypeName n s.title = some nm := by
  cases s <;> first | exact h | cases h

theorem convertLite_name {f : Nat} {n : Name} {s : Sch} {σ σ' : State} {e : Details}
    (h : convertLite f n s σ = .ok (e, σ')) : e.name? = topName n s := by
  revert f n s σ σ' e
  apply convertLite_induct (C := fun _ n s _ e _ => e.name? = topName n s)
    (M := fun _ _ _ _ _ _ _ => True)
  case str => exact rfl
  case int => exact rfl
  case bool => exact rfl
  case ref => exact fun _ => rfl
  case arr => exact fun _ _ => rfl
  case nullable => exact fun _ _ => rfl
  case obj => exact fun _ _ hnm => hnm.symm
  case enumStr => exact fun _ _ hnm => hnm.symm
  case nil => exact trivial
  case cons => exact fun _ _ _ _ _ => trivial

/-- `name_to_id.insert(name, type_id); id_to_entry.insert(type_id, entry)` of `convert_ref_type` -/
def insertDef (σ : State) (nm : Str) (tid : Nat) (ent : Details) : State :=
  { σ with nameToId := (nm, tid) :: σ.nameToId, idToEntry := (tid, ent) :: σ.idToEntry }

theorem insertDef_entry (σ : State) (nm : Str) (tid : Nat) (ent : Details) (i : Nat) :
    (insertDef σ nm tid ent).entry i = if tid = i then some ent else σ.entry i := rfl

theorem refTarget_unnamed {e : Details} {t : Nat} (h : e.refTarget? = some t) : e.name? = none := by
  cases e <;> first | rfl | cases h

/-- a named result is inserted at the reserved id as it is; an unnamed one — a reference too, which
    passes through `assign_type` unchanged — is assigned an id and wrapped into a newtype -/
theorem convertRefType_ok {fuel : Nat} {n : Name} {s : Sch} {tid : Nat} {σ σ' : State}
    (h : convertRefType fuel n s tid σ = .ok σ') :
    ∃ (e : Details) (σ1 : State) (nm : Str), convertLite fuel n s σ = .ok (e, σ1) ∧
      getTypeName n s.title = some nm ∧
      ((e.name? = some nm ∧ σ' = insertDef σ1 nm tid e) ∨
       (e.name? = none ∧
          σ' = insertDef (assignType e σ1).2 nm tid (.newtype nm (assignType e σ1).1))) := by
  unfold convertRefType at h
  split at h
  · cases h
  · rename_i e σ1 h1
    have hname := convertLite_name h1
    dsimp only at h
    split at h
    · cases h
    · rename_i ent σ2 hnamed
      simp only [R.ok.injEq] at h
      subst h
      split at hnamed
      · rename_i t ht
        split at hnamed
        · cases hnamed
        · rename_i nm hnm
          cases hnamed
          refine ⟨e, σ1, nm, h1, hnm, Or.inr ⟨refTarget_unnamed ht, ?_⟩⟩
          unfold assignType; rw [ht]; rfl
      · split at hnamed
        · rename_i nm hnm
          cases hnamed
          exact ⟨_, _, nm, h1, topName_title (by rw [← hname]; exact hnm), Or.inl ⟨hnm, by rw [hnm]; rfl⟩⟩
        · rename_i hnm
          split at hnamed
          · cases hnamed
          · rename_i nm hgt
            cases hnamed
            exact ⟨e, σ1, nm, h1, hgt, Or.inr ⟨by simpa using hnm, rfl⟩⟩

theorem convertRefType_insert {fuel : Nat} {n : Name} {s : Sch} {tid : Nat} {σ σ' : State}
    (h : convertRefType fuel n s tid σ = .ok σ') :
    ∃ (ent : Details) (nm : Str) (σ2 : State), Ext σ σ2 ∧ ent.name? = some nm ∧
      getTypeName n s.title = some nm ∧ σ' = insertDef σ2 nm tid ent ∧
      (Inv σ → Inv σ2 ∧ ∀ c ∈ ent.ids, c < σ2.nextId) := by
  obtain ⟨e, σ1, nm, h1, hg, hc⟩ := convertRefType_ok h
  have hx := convertLite_ext _ _ _ _ _ _ h1
  rcases hc with ⟨hn, rfl⟩ | ⟨_, rfl⟩
  · exact ⟨e, nm, σ1, hx, hn, hg, rfl, convertLite_inv _ _ _ _ _ _ h1⟩
  · refine ⟨_, nm, _, hx.trans (assignType_ext _ _), rfl, hg, rfl, fun hi => ?_⟩
    obtain ⟨i1, hids⟩ := convertLite_inv _ _ _ _ _ _ h1 hi
    obtain ⟨i2, hlt⟩ := assignType_inv i1 hids
    exact ⟨i2, fun c hc => by rw [List.mem_singleton.mp hc]; exact hlt⟩

theorem insertDef_inv {σ : State} {nm : Str} {tid : Nat} {ent : Details} (h : Inv σ)
    (hn : ent.name? = some nm) (hids : ∀ c ∈ ent.ids, c < σ.nextId) (ht : tid < σ.nextId)
    (hnone : σ.entry tid = none) : Inv (insertDef σ nm tid ent) :=
  h.add (Nat.le_refl _) ht hnone (insertDef_entry σ nm tid ent) hids
    (fun m j hm => by
      change alookup ((nm, tid) :: σ.nameToId) m = some j at hm
      rw [alookup_cons] at hm
      split at hm
      · rename_i hnm; exact Or.inl ⟨by rw [← hnm]; exact hn, (Option.some.inj hm).symm⟩
      · exact Or.inr hm)
    (fun _ _ hd => Or.inr hd) rfl

theorem convertRefType_inv {fuel : Nat} {n : Name} {s : Sch} {tid : Nat} {σ σ' : State}
    (h : convertRefType fuel n s tid σ = .ok σ') (hi : Inv σ) (ht : tid < σ.nextId)
    (hnone : σ.entry tid = none) : Inv σ' := by
  obtain ⟨ent, nm, σ2, hx, hn, _, rfl, hinv⟩ := convertRefType_insert h
  obtain ⟨i2, hids⟩ := hinv hi
  exact insertDef_inv i2 hn hids (Nat.lt_of_lt_of_le ht hx.next) (by rw [hx.entry tid ht]; exact hnone)

theorem convertRefType_frame {fuel : Nat} {n : Name} {s : Sch} {tid : Nat} {σ σ' : State}
    (h : convertRefType fuel n s tid σ = .ok σ') :
    σ.nextId ≤ σ'.nextId ∧ ∀ i, i < σ.nextId → i ≠ tid → σ'.entry i = σ.entry i := by
  obtain ⟨ent, nm, σ2, hx, _, _, rfl, _⟩ := convertRefType_insert h
  refine ⟨hx.next, fun i hi hne => ?_⟩
  rw [insertDef_entry, if_neg (Ne.symm hne)]
  exact hx.entry i hi

theorem convertDefs_ind {fuel base : Nat} {P : List (RefKey × Sch) → Nat → State → Prop}
    (hstep : ∀ k s r i σ σ1, P ((k, s) :: r) i σ →
      convertRefType fuel (keyName k) s (base + i) σ = .ok σ1 → P r (i + 1) σ1) :
    ∀ (defs : List (RefKey × Sch)) (i : Nat) (σ σ' : State),
      convertDefs fuel base defs i σ = .ok σ' → P defs i σ → P [] (i + defs.length) σ' := by
  intro defs
  induction defs with
  | nil =>
    intro i σ σ' h hp
    simp only [convertDefs, R.ok.injEq] at h
    subst h; exact hp
  | cons hd tl ih =>
    obtain ⟨k, s⟩ := hd
    intro i σ σ' h hp
    simp only [convertDefs] at h
    split at h
    · cases h
    · rename_i σ1 h1
      have := ih (i + 1) σ1 σ' h (hstep k s tl i σ σ1 hp h1)
      simpa [Nat.add_assoc, Nat.add_comm 1] using this

theorem reserve_spec (base : Nat) : ∀ (defs : List (RefKey × Sch)) (i : Nat) (σ : State),
    (reserve base defs i σ).nextId = σ.nextId ∧ (reserve base defs i σ).idToEntry = σ.idToEntry ∧
    (reserve base defs i σ).typeToId = σ.typeToId ∧ (reserve base defs i σ).nameToId = σ.nameToId ∧
    ∀ k id, alookup (reserve base defs i σ).refToId k = some id →
      alookup σ.refToId k = some id ∨ ∃ j s, defs[j]? = some (k, s) ∧ id = base + (i + j) := by
  intro defs
  induction defs with
  | nil => intro i σ; exact ⟨rfl, rfl, rfl, rfl, fun k id h => Or.inl h⟩
  | cons hd tl ih =>
    obtain ⟨k0, s0⟩ := hd
    intro i σ
    simp only [reserve]
    obtain ⟨h1, h2, h3, h4, h5⟩ := ih (i + 1)
      { σ with refToId := (k0, base + i) :: σ.refToId, definitions := k0 :: σ.definitions }
    refine ⟨h1, h2, h3, h4, fun k id hk => ?_⟩
    rcases h5 k id hk with h | ⟨j, s, hj, hid⟩
    · change alookup ((k0, base + i) :: σ.refToId) k = some id at h
      rw [alookup_cons] at h
      split at h
      · rename_i hk0
        cases h
        exact Or.inr ⟨0, s0, by simp [hk0], by simp⟩
      · exact Or.inl h
    · exact Or.inr ⟨j + 1, s, by simpa using hj, by omega⟩

/-- the state handed to the conversion loop: ids reserved, keys bound -/
def reserved (defs : List (RefKey × Sch)) (σ : State) : State :=
  reserve σ.nextId defs 0 { σ with nextId := σ.nextId + defs.length }

theorem reserved_entry (defs : List (RefKey × Sch)) (σ : State) (i : Nat) :
    (reserved defs σ).entry i = σ.entry i := by
  unfold reserved State.entry
  rw [(reserve_spec _ _ _ _).2.1]

theorem reserved_next (defs : List (RefKey × Sch)) (σ : State) :
    (reserved defs σ).nextId = σ.nextId + defs.length := (reserve_spec _ _ _ _).1

theorem reserved_nameToId (defs : List (RefKey × Sch)) (σ : State) :
    (reserved defs σ).nameToId = σ.nameToId := (reserve_spec _ _ _ _).2.2.2.1

theorem reserved_typeToId (defs : List (RefKey × Sch)) (σ : State) :
    (reserved defs σ).typeToId = σ.typeToId := (reserve_spec _ _ _ _).2.2.1

theorem reserved_inv {defs : List (RefKey × Sch)} {σ : State} (h : Inv σ) : Inv (reserved defs σ) where
  entry_lt := fun i e he => by
    rw [reserved_entry] at he; rw [reserved_next]
    exact Nat.lt_of_lt_of_le (h.entry_lt i e he) (Nat.le_add_right _ _)
  child_lt := fun i e he c hc => by
    rw [reserved_entry] at he; rw [reserved_next]
    exact Nat.lt_of_lt_of_le (h.child_lt i e he c hc) (Nat.le_add_right _ _)
  type_ok := fun d i hd => by
    rw [reserved_typeToId] at hd
    rw [reserved_entry]; exact h.type_ok d i hd
  name_ok := fun n i hn => by
    rw [reserved_nameToId] at hn
    rw [reserved_entry]; exact h.name_ok n i hn
  ref_lt := fun k i hk => by
    rw [reserved_next]
    rcases (reserve_spec _ _ _ _).2.2.2.2 k i hk with h1 | ⟨j, s, hj, rfl⟩
    · exact Nat.lt_of_lt_of_le (h.ref_lt k i h1) (Nat.le_add_right _ _)
    · have := (List.getElem?_eq_some_iff.mp hj).1
      omega

theorem addRefTypesImpl_steps {fuel : Nat} {defs : List (RefKey × Sch)} {σ σ' : State}
    (h : addRefTypesImpl fuel defs σ = .ok σ') :
    ∃ σ2, convertDefs fuel σ.nextId defs 0 (reserved defs σ) = .ok σ2 ∧ Finalized σ2 σ' ∧
      ∀ i, i < σ.nextId → σ'.entry i = σ2.entry i := by
  unfold addRefTypesImpl at h
  dsimp only at h
  split at h
  · cases h
  · rename_i σ2 h2
    split at h
    · cases h
    · exact ⟨σ2, h2, finalizeFrom_spec h⟩

theorem convertDefs_frame {fuel : Nat} {defs : List (RefKey × Sch)} {σ σ2 : State}
    (h : convertDefs fuel σ.nextId defs 0 (reserved defs σ) = .ok σ2) :
    σ.nextId ≤ σ2.nextId ∧ ∀ i, i < σ.nextId → σ2.entry i = σ.entry i := by
  refine convertDefs_ind (fuel := fuel)
    (P := fun _ _ τ => σ.nextId ≤ τ.nextId ∧ ∀ j, j < σ.nextId → τ.entry j = σ.entry j)
    (fun k s r i τ τ1 hp hc => ?_) defs 0 _ _ h
    ⟨by rw [reserved_next]; exact Nat.le_add_right _ _, fun j _ => reserved_entry _ _ _⟩
  obtain ⟨hn1, hf1⟩ := convertRefType_frame hc
  exact ⟨Nat.le_trans hp.1 hn1, fun j hj => by
    rw [hf1 j (Nat.lt_of_lt_of_le hj hp.1) (by omega), hp.2 j hj]⟩

/-- induction over the definitions of a batch started in a state satisfying `Inv`: at every step the
    invariant holds, the definition's reserved id is below `next_id` and still empty -/
theorem convertDefs_ind_inv {fuel : Nat} {defs : List (RefKey × Sch)} {σ σ2 : State} (hσ : Inv σ)
    {P : List (RefKey × Sch) → Nat → State → Prop}
    (hstep : ∀ k s r i τ τ1, i + (r.length + 1) = defs.length → Inv τ → σ.nextId + i < τ.nextId →
      τ.entry (σ.nextId + i) = none → P ((k, s) :: r) i τ →
      convertRefType fuel (keyName k) s (σ.nextId + i) τ = .ok τ1 → P r (i + 1) τ1)
    (h : convertDefs fuel σ.nextId defs 0 (reserved defs σ) = .ok σ2)
    (h0 : P defs 0 (reserved defs σ)) : P [] defs.length σ2 ∧ Inv σ2 := by
  let Q : List (RefKey × Sch) → Nat → State → Prop := fun r i τ =>
    i + r.length = defs.length ∧ σ.nextId + defs.length ≤ τ.nextId ∧ Inv τ ∧
    (∀ j, i ≤ j → j < defs.length → τ.entry (σ.nextId + j) = none) ∧ P r i τ
  have hfin := convertDefs_ind (fuel := fuel) (base := σ.nextId) (P := Q) (by
    intro k s r i τ τ1 hq hc
    obtain ⟨hlen, hnext, it, hnone, hp⟩ := hq
    simp only [List.length_cons] at hlen
    obtain ⟨hn1, hf1⟩ := convertRefType_frame hc
    have hnone_i := hnone i (Nat.le_refl _) (by omega)
    refine ⟨by omega, by omega, convertRefType_inv hc it (by omega) hnone_i, fun j hij hj => ?_,
      hstep k s r i τ τ1 hlen it (by omega) hnone_i hp hc⟩
    rw [hf1 _ (by omega) (by omega)]
    exact hnone j (by omega) hj) defs 0 _ _ h
    ⟨by simp, by rw [reserved_next]; exact Nat.le_refl _, reserved_inv hσ, fun j _ _ => by
      rw [reserved_entry]; exact hσ.entry_none (Nat.le_add_right _ _), h0⟩
  simp only [Nat.zero_add] at hfin
  exact ⟨hfin.2.2.2.2, hfin.2.2.1⟩

theorem checkAcyclic_ok_unit {σ : State} {lo hi : Nat} {u : Unit} (_h : checkAcyclic σ lo hi = .ok u) : True :=
  trivial

theorem addRefTypesImpl_frame {fuel : Nat} {defs : List (RefKey × Sch)} {σ σ' : State}
    (h : addRefTypesImpl fuel defs σ = .ok σ') :
    σ.nextId ≤ σ'.nextId ∧ ∀ i, i < σ.nextId → σ'.entry i = σ.entry i := by
  obtain ⟨σ2, h2, hs, hb⟩ := addRefTypesImpl_steps h
  obtain ⟨hn, hf⟩ := convertDefs_frame h2
  exact ⟨by rw [hs.next]; exact hn, fun i hi => by rw [hb i hi, hf i hi]⟩

theorem addRefTypesImpl_inv {fuel : Nat} {defs : List (RefKey × Sch)} {σ σ' : State}
    (h : addRefTypesImpl fuel defs σ = .ok σ') (hi : Inv σ) : Inv σ' := by
  obtain ⟨σ2, h2, hs, _⟩ := addRefTypesImpl_steps h
  exact hs.inv
    (convertDefs_ind_inv (P := fun _ _ _ => True) hi (fun _ _ _ _ _ _ _ _ _ _ _ _ => trivial) h2 trivial).2

theorem addTypeWithName_ok {fuel : Nat} {s : Sch} {hint : Option Str} {σ σ' : State} {id : Nat}
    (h : addTypeWithName fuel s hint σ = .ok (id, σ')) :
    ∃ e σc σm, convertLite fuel (hintName hint) s σ = .ok (e, σc) ∧ assignType e σc = (id, σm) ∧
      Finalized σm σ' ∧ ∀ i, i < σ.nextId → σ'.entry i = σm.entry i := by
  unfold addTypeWithName at h
  dsimp only at h
  split at h
  · cases h
  · rename_i id1 σ1 h1
    split at h
    · cases h
    · rename_i σ2 h2
      cases h
      obtain ⟨e, σc, hc, hp⟩ := idForSchema_ok h1
      exact ⟨e, σc, σ1, hc, hp, finalizeFrom_spec h2⟩

theorem addTypeWithName_frame {fuel : Nat} {s : Sch} {hint : Option Str} {σ σ' : State} {id : Nat}
    (h : addTypeWithName fuel s hint σ = .ok (id, σ')) :
    σ.nextId ≤ σ'.nextId ∧ ∀ i, i < σ.nextId → σ'.entry i = σ.entry i := by
  obtain ⟨e, σc, σm, hc, hp, hf, hb⟩ := addTypeWithName_ok h
  have hx := (convertLite_ext _ _ _ _ _ _ hc).trans (assignType_ext e σc)
  rw [hp] at hx
  exact ⟨by rw [hf.next]; exact hx.next, fun i hi => by rw [hb i hi, hx.entry i hi]⟩

theorem addTypeWithName_inv {fuel : Nat} {s : Sch} {hint : Option Str} {σ σ' : State} {id : Nat}
    (h : addTypeWithName fuel s hint σ = .ok (id, σ')) (hi : Inv σ) : Inv σ' ∧ id < σ'.nextId := by
  obtain ⟨e, σc, σm, hc, hp, hf, _⟩ := addTypeWithName_ok h
  obtain ⟨i1, hids⟩ := convertLite_inv _ _ _ _ _ _ hc hi
  have := assignType_inv i1 hids
  rw [hp] at this
  exact ⟨hf.inv this.1, by rw [hf.next]; exact this.2⟩

end TypifyModel.Space
