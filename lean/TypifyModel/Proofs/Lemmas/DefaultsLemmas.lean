import TypifyModel.Model.DefaultsWF
/-! Lock-step lemmas for C06 between `validate_value`, `output_value`, the typing judgement, `eval`
    and `Serde.de` over lists and tuples. -/
namespace TypifyModel.Defaults
open TypifyModel TypifyModel.Serde

/-- `a` is the run-time result `b`, and `b` is not a rejection -/
def Sim {α : Type} (a b : Except E α) : Prop := a = b ∧ b ≠ .error .reject

def Rel (x : Ext) (σ : Space) (t : Id) (j : Json) (e : RExpr) : Prop :=
  ∀ m, Sim (eval x σ m e t) (de x σ m t j)

namespace Sim
variable {α β : Type}

theorem ok (v : α) : Sim (.ok v : Except E α) (.ok v) := ⟨rfl, nofun⟩

theorem fuel : Sim (.error .fuel : Except E α) (.error .fuel) := ⟨rfl, nofun⟩

theorem err {e : E} (h : e ≠ .reject) : Sim (.error e : Except E α) (.error e) :=
  ⟨rfl, fun hc => h (by cases hc; rfl)⟩

/-- the motive is read off the goal: every `match` on `a` and on `b` reduces in both cases -/
@[elab_as_elim] theorem lift {a b : Except E α} {P : Except E α → Except E α → Prop} (h : Sim a b)
    (hok : ∀ v, P (.ok v) (.ok v)) (herr : ∀ e, e ≠ .reject → P (.error e) (.error e)) : P a b := by
  obtain ⟨rfl, h⟩ := h
  cases a with
  | ok v => exact hok v
  | error e => exact herr e fun hc => h (hc ▸ rfl)

end Sim

theorem rtyOfName_name {s : String} {r : RTy} (h : rtyOfName s = some r) : s = r.name := by
  unfold rtyOfName at h
  have := List.find?_some h
  exact (by simpa using this : r.name = s).symm

theorem nz_prefix {s : String} {r : RTy} (h : rtyOfName s = some r) :
    s.startsWith nonZeroPrefix = r.isNonZero := by
  have := rtyOfName_name h
  subst this
  cases r <;> decide +kernel

inductive Rel2 {α β : Type} (R : α → β → Prop) : List α → List β → Prop where
  | nil : Rel2 R [] []
  | cons {a b as bs} : R a b → Rel2 R as bs → Rel2 R (a :: as) (b :: bs)

theorem rel2_flip {α β : Type} {R : α → β → Prop} : ∀ {as bs}, Rel2 R as bs → Rel2 (fun b a => R a b) bs as := by
  intro as bs h
  induction h with
  | nil => exact .nil
  | cons a _ ih => exact .cons a ih

theorem validateSet_all {V : Json → VRes} : ∀ xs, validateSet V xs = .ok () → validateAll V xs = .ok () := by
  intro xs
  induction xs with
  | nil => intro _; rfl
  | cons a r ih =>
    intro h
    simp only [validateSet] at h
    simp only [validateAll]
    split at h
    · cases h
    · split at h
      · cases h
      · exact ih h

theorem mapM'_rel2 {α β γ : Type} {F : α → Except E γ} {G : β → Except E γ} {R : α → β → Prop}
    (h : ∀ a b, R a b → Sim (F a) (G b)) :
    ∀ {as bs}, Rel2 R as bs → Sim (mapM' F as) (mapM' G bs) := by
  intro as bs hr
  induction hr with
  | nil => exact .ok []
  | cons hab _ ih =>
    simp only [mapM']
    exact (h _ _ hab).lift (fun _ => ih.lift (fun _ => .ok _) fun _ => .err) fun _ => .err

theorem list_out {V : Json → VRes} {O : Json → Out} {W : Json → Bool} {H : RExpr → Bool}
    {G : Nat → RExpr → Except E Val} {D : Nat → Json → Except E Val}
    (step : ∀ j k, V j = .ok k → W j = true → ∃ e, O j = .ok e ∧ H e = true ∧ ∀ m, Sim (G m e) (D m j)) :
    ∀ xs, validateAll V xs = .ok () → xs.all W = true →
      ∃ es, outList O xs = .ok es ∧ es.all H = true ∧ es.length = xs.length ∧
        ∀ m, Sim (mapM' (G m) es) (mapM' (D m) xs) := by
  intro xs
  induction xs with
  | nil => intro _ _; exact ⟨[], rfl, rfl, rfl, fun _ => .ok []⟩
  | cons a r ih =>
    intro hv hw
    simp only [validateAll] at hv
    simp only [List.all_cons, Bool.and_eq_true] at hw
    split at hv
    · cases hv
    · rename_i k hk
      obtain ⟨e, he, hh, hr⟩ := step a k hk hw.1
      obtain ⟨es, hes, hhs, hl, hrs⟩ := ih hv hw.2
      refine ⟨e :: es, ?_, ?_, congrArg (· + 1) hl, fun m => ?_⟩
      · simp only [outList, he, hes]
      · simp only [List.all_cons, hh, hhs, Bool.and_self]
      · simp only [mapM']
        exact (hr m).lift (fun _ => (hrs m).lift (fun _ => .ok _) fun _ => .err) fun _ => .err

theorem zip_out {V : Id → Json → VRes} {O : Id → Json → Out} {W : Id → Json → Bool} {H : RExpr → Id → Bool}
    {G : Nat → Id → RExpr → Except E Val} {D : Nat → Id → Json → Except E Val}
    (step : ∀ t j k, V t j = .ok k → W t j = true → ∃ e, O t j = .ok e ∧ H e t = true ∧ ∀ m, Sim (G m t e) (D m t j)) :
    ∀ ts xs, validateZip V ts xs = .ok () → wfZip W ts xs = true →
      ∃ es, outZip O ts xs = .ok es ∧ zipAllB H es ts = true ∧ es.length = ts.length ∧
        ∀ m, Sim (zipE (G m) ts es) (zipM (D m) ts xs) := by
  intro ts
  induction ts with
  | nil =>
    intro xs hv _
    cases xs with
    | nil => exact ⟨[], rfl, rfl, rfl, fun _ => .ok []⟩
    | cons a r => cases hv
  | cons t ts ih =>
    intro xs hv hw
    cases xs with
    | nil => cases hv
    | cons a r =>
      simp only [validateZip] at hv
      simp only [wfZip, Bool.and_eq_true] at hw
      split at hv
      · cases hv
      · rename_i k hk
        obtain ⟨e, he, hh, hr⟩ := step t a k hk hw.1
        obtain ⟨es, hes, hhs, hl, hrs⟩ := ih r hv hw.2
        refine ⟨e :: es, ?_, ?_, congrArg (· + 1) hl, fun m => ?_⟩
        · simp only [outZip, he, hes]
        · simp only [zipAllB, hh, hhs, Bool.and_self]
        · simp only [zipE, zipM]
          exact (hr m).lift (fun _ => (hrs m).lift (fun _ => .ok _) fun _ => .err) fun _ => .err

theorem accepted_entry {x : Ext} {σ : Space} {n : Nat} {t : Id} {d : Json} {k : DKind}
    (hv : validateValue x σ n t d = .ok k) (hw : WFDefault x σ n t d = true) :
    ∃ n' det ed im, n = n' + 1 ∧ σ.get t = some ⟨det, ed, im⟩ ∧
      (match det with | .native .. => False | .reference _ => False | _ => True) := by
  cases n with
  | zero => cases hv
  | succ n' =>
    cases hg : σ.get t with
    | none => simp only [validateValue, hg] at hv; cases hv
    | some ent =>
      obtain ⟨det, ed, im⟩ := ent
      refine ⟨n', det, ed, im, rfl, rfl, ?_⟩
      simp only [WFDefault, hg] at hw
      cases det <;> first | trivial | cases hw

theorem string_facts {x : Ext} {σ : Space} {t : Id} {ed : List String} {im : List Impl}
    (hg : σ.get t = some ⟨.string, ed, im⟩) (s : String) (n : Nat) :
    outputValue x σ (n + 1) t (.str s) = .ok (.str s) ∧ hasType σ (n + 1) (.str s) t = true ∧
      eval x σ (n + 1) (.str s) t = .ok (.str s) ∧ de x σ (n + 1) t (.str s) = .ok (.str s) := by
  simp only [outputValue, hasType, eval, de, hg, and_self]

end TypifyModel.Defaults
