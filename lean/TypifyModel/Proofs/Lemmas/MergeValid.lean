import TypifyModel.Model.Merge
import TypifyModel.Proofs.Lemmas.JsonBasics
/-! Facts about `Validate.valid` used by the C09 proofs: monotonicity in fuel, determinism across
    fuels, lawfulness of `Json.beq`. -/
namespace TypifyModel.Merge
open TypifyModel TypifyModel.Validate

mutual
theorem beq_eq : ∀ (a b : Json), Json.beq a b = true → a = b
  | .null, b, h => by cases b <;> first | rfl | cases h
  | .bool x, b, h => by cases b <;> first | exact congrArg _ (eq_of_beq h) | cases h
  | .int x, b, h => by cases b <;> first | exact congrArg _ (eq_of_beq h) | cases h
  | .flt m e, b, h => by
    cases b <;> first | cases h | skip
    rename_i m' e'
    obtain ⟨h1, h2⟩ := Bool.and_eq_true_iff.mp (h : (m == m' && e == e') = true)
    rw [eq_of_beq h1, eq_of_beq h2]
  | .str x, b, h => by cases b <;> first | exact congrArg _ (eq_of_beq h) | cases h
  | .arr xs, b, h => by cases b <;> first | exact congrArg _ (beqList_eq _ _ h) | cases h
  | .obj xs, b, h => by cases b <;> first | exact congrArg _ (beqObj_eq _ _ h) | cases h
theorem beqList_eq : ∀ (xs ys : List Json), Json.beqList xs ys = true → xs = ys
  | [], [], _ => rfl
  | [], _ :: _, h => nomatch h
  | _ :: _, [], h => nomatch h
  | x :: xs, y :: ys, h => by
    obtain ⟨h1, h2⟩ := Bool.and_eq_true_iff.mp h
    rw [beq_eq x y h1, beqList_eq xs ys h2]
theorem beqObj_eq : ∀ (xs ys : List (String × Json)), Json.beqObj xs ys = true → xs = ys
  | [], [], _ => rfl
  | [], _ :: _, h => nomatch h
  | _ :: _, [], h => nomatch h
  | (k, x) :: xs, (k', y) :: ys, h => by
    obtain ⟨h1, h3⟩ := Bool.and_eq_true_iff.mp h
    obtain ⟨h1, h2⟩ := Bool.and_eq_true_iff.mp h1
    rw [eq_of_beq h1, beq_eq x y h2, beqObj_eq xs ys h3]
end

mutual
theorem beq_refl : ∀ (a : Json), Json.beq a a = true
  | .null => rfl
  | .bool _ => beq_self_eq_true _
  | .int _ => beq_self_eq_true _
  | .flt m e => Bool.and_eq_true_iff.mpr ⟨beq_self_eq_true m, beq_self_eq_true e⟩
  | .str _ => beq_self_eq_true _
  | .arr xs => beqList_refl xs
  | .obj xs => beqObj_refl xs
theorem beqList_refl : ∀ (xs : List Json), Json.beqList xs xs = true
  | [] => rfl
  | x :: xs => Bool.and_eq_true_iff.mpr ⟨beq_refl x, beqList_refl xs⟩
theorem beqObj_refl : ∀ (xs : List (String × Json)), Json.beqObj xs xs = true
  | [] => rfl
  | (k, x) :: xs => Bool.and_eq_true_iff.mpr ⟨Bool.and_eq_true_iff.mpr ⟨beq_self_eq_true k, beq_refl x⟩, beqObj_refl xs⟩
end
theorem jbeq_iff {a b : Json} : (a == b) = true ↔ a = b :=
  ⟨fun h => beq_eq a b h, fun h => h ▸ beq_refl a⟩

theorem any_beq_iff {vs : List Json} {j : Json} : vs.any (· == j) = true ↔ j ∈ vs := by
  simp only [List.any_eq_true]
  constructor
  · rintro ⟨x, hx, hxe⟩; exact (jbeq_iff.mp hxe) ▸ hx
  · intro h; exact ⟨j, h, jbeq_iff.mpr rfl⟩

/-- `g'` gives every answer `g` gives: what more fuel does to `valid` -/
def Extends {α : Type} (g g' : α → Option Bool) : Prop := ∀ a r, g a = some r → g' a = some r

theorem and3_mono {a b a' b' : Option Bool} {r : Bool} (ha : ∀ t, a = some t → a' = some t)
    (hb : ∀ t, b = some t → b' = some t) (h : and3 a b = some r) : and3 a' b' = some r := by
  obtain ⟨p, q, rfl, rfl, rfl⟩ := and3_some h
  rw [ha p rfl, hb q rfl]; rfl

theorem allV_mono {g g' : Schema → Option Bool} (hg : Extends g g') : Extends (allV g) (allV g') := by
  intro l
  induction l with
  | nil => exact fun _ h => h
  | cons s rest ih => exact fun _ h => and3_mono (hg s) ih h

theorem countV_cons_some {g : Schema → Option Bool} {a : Schema} {r : List Schema} {n : Nat}
    (h : countV g (a :: r) = some n) : ∃ c k, g a = some c ∧ countV g r = some k ∧ n = (if c then k + 1 else k) := by
  rw [countV] at h
  split at h
  · rename_i c k hc hk; exact ⟨c, k, hc, hk, (Option.some.inj h).symm⟩
  · cases h

theorem countV_mono {g g' : Schema → Option Bool} (hg : Extends g g') :
    ∀ (l : List Schema) (n : Nat), countV g l = some n → countV g' l = some n
  | [], _, h => h
  | s :: rest, n, h => by
    obtain ⟨c, k, hc, hk, rfl⟩ := countV_cons_some h
    simp only [countV, hg s c hc, countV_mono hg rest k hk]

theorem zipV_mono {g g' : Schema → Json → Option Bool} (hg : ∀ s, Extends (g s) (g' s)) :
    ∀ (ss : List Schema), Extends (zipV g ss) (zipV g' ss)
  | [], [], _, h => h
  | [], _ :: _, _, h => h
  | _ :: _, [], _, h => h
  | s :: ss, j :: js, _, h => and3_mono (hg s j) (zipV_mono hg ss js) h

theorem membersV_mono {g g' : Schema → Json → Option Bool} (hg : ∀ s, Extends (g s) (g' s))
    (props : List (String × Schema)) (addl : Additional Schema) : Extends (membersV g props addl) (membersV g' props addl)
  | [], _, h => h
  | (k, v) :: rest, _, h => by
    refine and3_mono (fun t ht => ?_) (membersV_mono hg props addl rest) h
    revert ht
    cases props.find? (fun p => p.1 == k) with
    | some q => exact hg _ _ _
    | none => cases addl with
      | schema s => exact hg _ _ _
      | _ => exact id
theorem allJ_mono {g g' : Json → Option Bool} (hg : Extends g g') : Extends (allJ g) (allJ g') := by
  intro l
  induction l with
  | nil => exact fun _ h => h
  | cons s rest ih => exact fun _ h => and3_mono (hg s) ih h

section eqs
variable (x : Ext) (d : Doc) (f : Nat) (j : Json)
theorem valid_zero (s : Schema) : valid x d 0 s j = none := by cases s <;> rfl
theorem valid_any : valid x d (f + 1) .any j = some true := rfl
theorem valid_never : valid x d (f + 1) .never j = some false := rfl
theorem valid_null : valid x d (f + 1) .null j = some (match j with | .null => true | _ => false) := rfl
theorem valid_boolean : valid x d (f + 1) .boolean j = some (match j with | .bool _ => true | _ => false) := rfl
theorem valid_integer (lo hi : Option Int) : valid x d (f + 1) (.integer lo hi) j =
    some (match j with
      | .int n => (match lo with | some l => decide (l ≤ n) | none => true) &&
                  (match hi with | some h => decide (n ≤ h) | none => true)
      | _ => false) := rfl
theorem valid_number : valid x d (f + 1) .number j = some (match j with | .int _ => true | .flt _ _ => true | _ => false) := rfl
theorem valid_string (mn mx : Option Nat) (pat : Option String) : valid x d (f + 1) (.string mn mx pat) j =
    some (match j with
      | .str t => (match mn with | some m => decide (m ≤ strLen t) | none => true) &&
                  (match mx with | some m => decide (strLen t ≤ m) | none => true) &&
                  (match pat with | some p => x.regex p t | none => true)
      | _ => false) := rfl
theorem valid_enum (vs : List Json) : valid x d (f + 1) (.enumVals vs) j = some (vs.any (· == j)) := rfl
theorem valid_ref (k : String) : valid x d (f + 1) (.ref k) j =
    (match d.get k with | some s' => valid x d f s' j | none => some false) := rfl
theorem valid_array (items : Schema) (mn mx : Option Nat) (uniq : Bool) : valid x d (f + 1) (.array items mn mx uniq) j =
    (match j with
     | .arr xs =>
       and3 (some ((match mn with | some m => decide (m ≤ xs.length) | none => true) &&
                   (match mx with | some m => decide (xs.length ≤ m) | none => true) &&
                   (!uniq || distinctJ xs)))
            (allJ (valid x d f items) xs)
     | _ => some false) := rfl
theorem valid_tuple (items : List Schema) : valid x d (f + 1) (.tuple items) j =
    (match j with | .arr xs => zipV (valid x d f) items xs | _ => some false) := rfl
theorem valid_object (props : List (String × Schema)) (req : List String) (addl : Additional Schema) :
    valid x d (f + 1) (.object props req addl) j =
    (match j with
     | .obj kvs => and3 (some (req.all (fun r => (Json.lookup kvs r).isSome))) (membersV (valid x d f) props addl kvs)
     | _ => some false) := rfl
theorem valid_oneOf (ss : List Schema) : valid x d (f + 1) (.oneOf ss) j =
    (countV (fun s' => valid x d f s' j) ss).map (· == 1) := rfl
theorem valid_anyOf (ss : List Schema) : valid x d (f + 1) (.anyOf ss) j =
    (countV (fun s' => valid x d f s' j) ss).map (fun n => decide (0 < n)) := rfl
theorem valid_allOf (ss : List Schema) : valid x d (f + 1) (.allOf ss) j = allV (fun s' => valid x d f s' j) ss := rfl
theorem valid_not (s' : Schema) : valid x d (f + 1) (.not s') j = (valid x d f s' j).map (!·) := rfl
end eqs

/-- the `minItems` / `maxItems` checks of `valid` -/
def geO (mn : Option Nat) (n : Nat) : Bool := match mn with | some m => decide (m ≤ n) | none => true
def leO (mx : Option Nat) (n : Nat) : Bool := match mx with | some m => decide (n ≤ m) | none => true

theorem valid_array' (x : Ext) (d : Doc) (f : Nat) (j : Json) (items : Schema) (mn mx : Option Nat) (uniq : Bool) :
    valid x d (f + 1) (.array items mn mx uniq) j =
    (match j with
     | .arr xs => and3 (some (geO mn xs.length && leO mx xs.length && (!uniq || distinctJ xs))) (allJ (valid x d f items) xs)
     | _ => some false) := by
  cases mn <;> cases mx <;> rfl

theorem map_mono {α β : Type} {a a' : Option α} (φ : α → β) {r : β} (ha : ∀ t, a = some t → a' = some t)
    (h : a.map φ = some r) : a'.map φ = some r := by
  obtain ⟨t, rfl, rfl⟩ := Option.map_eq_some_iff.mp h
  rw [ha t rfl]; rfl

theorem valid_succ (x : Ext) (d : Doc) : ∀ (f : Nat) (s : Schema) (v : Json) (r : Bool),
    valid x d f s v = some r → valid x d (f + 1) s v = some r := by
  intro f
  induction f with
  | zero => intro s v r h; rw [valid_zero] at h; cases h
  | succ f ih =>
    intro s v r h
    have ihv : Extends (fun s => valid x d f s v) (fun s => valid x d (f + 1) s v) := fun s => ih s v
    cases s with
    | ref k =>
      rw [valid_ref] at h ⊢
      revert h
      cases d.get k with
      | none => exact id
      | some s' => exact ih _ _ _
    | array items mn mx u =>
      cases v with
      | arr xs => exact and3_mono (fun _ => id) (allJ_mono (ih items) xs) h
      | _ => exact h
    | tuple items =>
      cases v with
      | arr xs => exact zipV_mono ih items xs r h
      | _ => exact h
    | object props req addl =>
      cases v with
      | obj kvs => exact and3_mono (fun _ => id) (membersV_mono ih props addl kvs) h
      | _ => exact h
    | oneOf ss => exact map_mono _ (countV_mono ihv ss) h
    | anyOf ss => exact map_mono _ (countV_mono ihv ss) h
    | allOf ss => exact allV_mono ihv ss r h
    | not s' => exact map_mono _ (ih s' v) h
    | _ => exact h

theorem valid_mono (x : Ext) (d : Doc) {f f' : Nat} (hle : f ≤ f') {s : Schema} {v : Json} {r : Bool}
    (h : valid x d f s v = some r) : valid x d f' s v = some r := by
  induction hle with
  | refl => exact h
  | step _ ih => exact valid_succ x d _ _ _ _ ih

theorem valid_le (x : Ext) (d : Doc) {f f' : Nat} (h : f ≤ f') (s : Schema) : Extends (valid x d f s) (valid x d f' s) :=
  fun _ _ hh => valid_mono x d h hh

/-- a verdict does not depend on the fuel at which it is obtained -/
theorem valid_det (x : Ext) (d : Doc) {f f' : Nat} {s : Schema} {v : Json} {r r' : Bool}
    (h : valid x d f s v = some r) (h' : valid x d f' s v = some r') : r = r' := by
  have h1 := valid_mono x d (Nat.le_max_left f f') h
  have h2 := valid_mono x d (Nat.le_max_right f f') h'
  rw [h1] at h2; exact Option.some.inj h2

end TypifyModel.Merge
