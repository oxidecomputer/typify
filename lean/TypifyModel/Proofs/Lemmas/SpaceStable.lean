import TypifyModel.Proofs.Lemmas.SpaceInv
/-! C16 helpers for `readd`: converting a schema a second time, in any state that still answers the
    index lookups of the first conversion the same way (`Sim`), yields the same entry and changes
    nothing — by-name reuse for named types, `type_to_id` reuse for unnamed ones, determinism of
    `convertLite`.  Stated for every such later state (the architecture of DESIGN.md Appendix C). -/
set_option autoImplicit false
namespace TypifyModel.Space
open TypifyModel.Names (Str)

/-- `τ` answers what the conversion asks at least as `σ` does: bindings of the two indexes are kept,
    `ref_to_id` is the same, and below `σ.nextId` the "has an intrinsic default" test agrees -/
structure Sim (σ τ : State) : Prop where
  name : ∀ n i, alookup σ.nameToId n = some i → alookup τ.nameToId n = some i
  type : ∀ d i, alookup σ.typeToId d = some i → alookup τ.typeToId d = some i
  ref : τ.refToId = σ.refToId
  intr : ∀ i, i < σ.nextId → hasIntrinsicDefault (τ.entry i) = hasIntrinsicDefault (σ.entry i)

theorem Sim.refl (σ : State) : Sim σ σ := ⟨fun _ _ h => h, fun _ _ h => h, rfl, fun _ _ => rfl⟩

theorem Sim.of_ext {σ1 σ2 τ : State} (hx : Ext σ1 σ2) (hs : Sim σ2 τ) : Sim σ1 τ where
  name := fun n i h => hs.name n i (hx.name n i h)
  type := fun d i h => hs.type d i (hx.type d i h)
  ref := by rw [hs.ref, hx.ref]
  intr := fun i hi => by rw [hs.intr i (Nat.lt_of_lt_of_le hi hx.next), hx.entry i hi]

theorem assignType_of_ref {e : Details} {t : Nat} (τ : State) (h : e.refTarget? = some t) :
    assignType e τ = (t, τ) := by
  unfold assignType; rw [h]

theorem assignType_of_nameHit {e : Details} {n : Str} {i : Nat} {τ : State} (hr : e.refTarget? = none)
    (hn : e.name? = some n) (h : alookup τ.nameToId n = some i) : assignType e τ = (i, τ) := by
  unfold assignType; rw [hr]; dsimp only; rw [hn]; dsimp only; rw [h]

theorem assignType_of_typeHit {e : Details} {i : Nat} {τ : State} (hr : e.refTarget? = none)
    (hn : e.name? = none) (h : alookup τ.typeToId e = some i) : assignType e τ = (i, τ) := by
  unfold assignType; rw [hr]; dsimp only; rw [hn]; dsimp only; rw [h]

theorem assignType_stable {e : Details} {σ τ : State} (hs : Sim (assignType e σ).2 τ) :
    assignType e τ = ((assignType e σ).1, τ) := by
  have hc := assignType_cases e σ
  generalize assignType e σ = p at hc hs ⊢
  cases hc with
  | ref t ht => exact assignType_of_ref τ ht
  | nameHit n i hr hn hi => exact assignType_of_nameHit hr hn (hs.name n i hi)
  | typeHit i hr hn hi => exact assignType_of_typeHit hr hn (hs.type e i hi)
  | new hr =>
    cases hn : e.name? with
    | some n => exact assignType_of_nameHit hr hn (hs.name n _ (by rw [alloc_name, if_pos hn]))
    | none => exact assignType_of_typeHit hr hn (hs.type e _ (by rw [alloc_type, if_pos ⟨hn, rfl⟩]))

theorem propResult_stable {req : List Str} {pn : Str} {p : Nat × State} {σ' τ : State} {fld : Field}
    (h : propResult req pn p = .ok (fld, σ')) (hlt : p.1 < p.2.nextId) (hs : Sim σ' τ) :
    propResult req pn (p.1, τ) = .ok (fld, τ) := by
  have hsσ : Sim p.2 τ := Sim.of_ext (propResult_ext h) hs
  unfold propResult at h ⊢
  dsimp only at h ⊢
  rw [hsσ.intr p.1 hlt]
  split at h
  · rename_i hreq
    simp only [R.ok.injEq, Prod.mk.injEq] at h
    simp only [if_pos hreq, h.1]
  · rename_i hreq
    split at h
    · rename_i hin
      simp only [R.ok.injEq, Prod.mk.injEq] at h
      simp only [if_neg hreq, if_pos hin, h.1]
    · rename_i hin
      simp only [R.ok.injEq, Prod.mk.injEq] at h
      obtain ⟨rfl, rfl⟩ := h
      unfold idToOption at hs ⊢
      simp only [if_neg hreq, if_neg hin, assignType_stable hs]

/-- **determinism / idempotence of the conversion**: in every later state `τ` that keeps the index
    bindings of the state `σ'` the first conversion ended in, converting the same schema under the
    same name yields the same entry and leaves `τ` as it is -/
theorem convertLite_stable : ∀ (f : Nat) (n : Name) (s : Sch) (σ σ' : State) (e : Details),
    convertLite f n s σ = .ok (e, σ') → Inv σ → ∀ τ, Sim σ' τ → convertLite f n s τ = .ok (e, τ) := by
  apply convertLite_induct
    (C := fun f n s σ e σ' => Inv σ → ∀ τ, Sim σ' τ → convertLite f n s τ = .ok (e, τ))
    (M := fun f base req ps σ fs σ' => Inv σ → ∀ τ, Sim σ' τ →
      structMembers (convertLite f) base req ps τ = .ok (fs, τ))
  case str => exact fun _ _ _ => rfl
  case int => exact fun _ _ _ => rfl
  case bool => exact fun _ _ _ => rfl
  case nil => exact fun _ _ _ => rfl
  case ref => exact fun hk _ τ hs => by simp only [convertLite, hs.ref, hk]
  case arr =>
    refine fun _ ih hi τ hs => ?_
    simp only [convertLite, ih hi τ (Sim.of_ext (assignType_ext _ _) hs), assignType_stable hs]
  case nullable =>
    refine fun _ ih hi τ hs => ?_
    simp only [convertLite, ih hi τ (Sim.of_ext (assignType_ext _ _) hs), assignType_stable hs]
  case obj =>
    refine fun _ ih hnm hi τ hs => ?_
    simp only [convertLite, ih hi τ hs]
    simp only [hnm]
  case enumStr => exact fun hne hv hnm _ τ _ => by simp only [convertLite, if_neg hne, hv, hnm]
  case cons =>
    refine fun hr ih hprop ht iht hi τ hs => ?_
    obtain ⟨i1, hids⟩ := convertLite_inv _ _ _ _ _ _ hr hi
    obtain ⟨_, hlt, i3⟩ := property_inv hprop i1 hids
    have hs2 := Sim.of_ext (structMembers_ext ht) hs
    have hsa := Sim.of_ext (propResult_ext hprop) hs2
    simp only [structMembers, structProperty, ih hi τ (Sim.of_ext (assignType_ext _ _) hsa),
      assignType_stable hsa, propResult_stable hprop hlt hs2, iht i3 τ hs]

theorem Finalized.sim {σ σ' : State} (hf : Finalized σ σ') : Sim σ σ' where
  name := fun n i h => by rw [hf.name]; exact h
  type := fun d i h => by rw [hf.type]; exact h
  ref := hf.ref
  intr := fun i _ => by
    rcases hf.entry i with h | h
    · rw [h]
    · rw [h]
      cases hσ : σ.entry i with
      | none => rfl
      | some e => cases e <;> rfl

end TypifyModel.Space
