import TypifyModel.Proofs.Lemmas.MergeObj
/-! C09: `mergeTyped` and `mergeBody`, arm by arm. -/
namespace TypifyModel.Merge
open TypifyModel TypifyModel.Validate

variable {x : Ext} {d : Doc}

theorem mergeTyped_spec {rec : Schema → Schema → MR} (hrec : RecOK x d rec) (a b : Schema) :
    Spec x d (mergeTyped rec a b) a b := by
  unfold mergeTyped
  split
  · exact Inter_self _
  · exact Inter_self _
  · exact Inter_self _
  · split
    · exact int_inter _ _ _ _
    · trivial
  · trivial
  · trivial
  · rename_i mn mx p mn' mx' p'
    split
    · rename_i heq
      simp only [Bool.and_eq_true, beq_iff_eq] at heq
      obtain ⟨⟨rfl, rfl⟩, rfl⟩ := heq
      exact Inter_self _
    · split
      · exact str_absent_inter ‹_› _ rfl
      · split
        · exact (str_absent_inter ‹_› _ rfl).symm
        · trivial
  · exact array_array_spec hrec _ _ _ _ _ _ _ _
  · rename_i ia mna mxa ua ts
    split
    · trivial
    · rename_i hc
      have hua : ua = false := by revert hc; cases ua <;> simp
      subst hua
      exact array_tuple_spec hrec ia mna mxa ts
  · rename_i ts ib mnb mxb ub
    split
    · trivial
    · rename_i hc
      have hub : ub = false := by revert hc; cases ub <;> simp
      subst hub
      rw [omaxN_comm, ominN_comm]
      exact (array_tuple_spec hrec ib mnb mxb ts).symm
  · split
    · trivial
    · exact tuple_tuple_spec hrec _ _
  · exact object_spec hrec _ _ _ _ _ _
  · exact spec_default a b

theorem enumOf_eq {s : Schema} {vs : List Json} (h : enumOf s = some vs) : s = .enumVals vs := by
  cases s <;> cases h
  rfl

theorem mergeBody_spec (te : Bool) {rec : Schema → Schema → MR} (hrec : RecOK x d rec) (a b : Schema) :
    Spec x d (mergeBody te rec a b) a b := by
  unfold mergeBody
  split
  · rw [isAny_eq (s := a) ‹_›]
    exact Inter_any_left b
  · split
    · rw [isAny_eq (s := b) ‹_›]
      exact (Inter_any_left a).symm
    · split
      · rename_i va vb hea heb
        rw [enumOf_eq hea, enumOf_eq heb]
        exact enum_enum_spec va vb
      · rename_i va hea heb
        rw [enumOf_eq hea]
        exact enumWith_spec te va b
      · rename_i vb hea heb
        rw [enumOf_eq heb]
        exact (enumWith_spec te vb a).symm
      · exact mergeTyped_spec hrec a b

end TypifyModel.Merge
