import TypifyModel.Model.Semver
/-! Helper lemmas for C13: the comparison functions of `Model/Semver.lean` decide strict total
    orders; the matchers' steps as propositions; the comparators the parser builds. -/
namespace TypifyModel.Semver

structure StrictCmp {α : Type} (cmp : α → α → Ordering) : Prop where
  eq {a b} : cmp a b = .eq ↔ a = b
  gt {a b} : cmp a b = .gt ↔ cmp b a = .lt
  trans {a b c} : cmp a b = .lt → cmp b c = .lt → cmp a c = .lt

/-- the shape of `cmpChars` and `cmpIdents` -/
def lexCmp {α : Type} (cmp : α → α → Ordering) : List α → List α → Ordering
  | [], [] => .eq
  | [], _ :: _ => .lt
  | _ :: _, [] => .gt
  | a :: as, b :: bs => (cmp a b).then (lexCmp cmp as bs)

theorem StrictCmp.lex {α : Type} {cmp : α → α → Ordering} (h : StrictCmp cmp) :
    StrictCmp (lexCmp cmp) where
  eq {a b} := by
    induction a generalizing b with
    | nil => cases b <;> simp [lexCmp]
    | cons x as ih =>
      cases b with
      | nil => simp [lexCmp]
      | cons y bs => simp only [lexCmp, Ordering.then_eq_eq, h.eq, ih, List.cons.injEq]
  gt {a b} := by
    induction a generalizing b with
    | nil => cases b <;> simp [lexCmp]
    | cons x as ih =>
      cases b with
      | nil => simp [lexCmp]
      | cons y bs =>
        simp only [lexCmp, Ordering.then_eq_gt, Ordering.then_eq_lt, h.gt, h.eq, ih, eq_comm (a := x)]
  trans {a b c} := by
    induction a generalizing b c with
    | nil => cases b <;> cases c <;> simp [lexCmp]
    | cons x as ih =>
      cases b with
      | nil => simp [lexCmp]
      | cons y bs =>
        cases c with
        | nil => simp [lexCmp]
        | cons z cs =>
          simp only [lexCmp, Ordering.then_eq_lt, h.eq]
          rintro (xy | ⟨rfl, h₁⟩) (yz | ⟨rfl, h₂⟩)
          · exact .inl (h.trans xy yz)
          · exact .inl xy
          · exact .inl yz
          · exact .inr ⟨rfl, ih h₁ h₂⟩

theorem StrictCmp.refl {α : Type} {cmp : α → α → Ordering} (h : StrictCmp cmp) (a : α) :
    cmp a a = .eq := h.eq.mpr rfl

/-- `ver.pre >= cmp.pre` as "less or equal" the other way round -/
theorem StrictCmp.ne_lt {α : Type} {cmp : α → α → Ordering} (h : StrictCmp cmp) {a b : α} :
    cmp a b ≠ .lt ↔ (cmp b a = .lt ∨ b = a) := by
  rw [← h.gt, show b = a ↔ cmp a b = .eq from eq_comm.trans h.eq.symm]
  cases cmp a b <;> simp

theorem StrictCmp.comap {α β : Type} {cmp : β → β → Ordering} (h : StrictCmp cmp) {f : α → β}
    (hf : ∀ {a b}, f a = f b ↔ a = b) : StrictCmp fun a b => cmp (f a) (f b) where
  eq := h.eq.trans hf
  gt := h.gt
  trans := h.trans

theorem cmpNat_eq_compare (a b : Nat) : cmpNat a b = compare a b :=
  (Nat.compare_eq_ite_lt a b).symm

theorem cmpNat_strict : StrictCmp cmpNat where
  eq := by simp only [cmpNat_eq_compare, Nat.compare_eq_eq, implies_true]
  gt := by simp only [cmpNat_eq_compare, Nat.compare_eq_gt, Nat.compare_eq_lt, implies_true]
  trans := by simp only [cmpNat_eq_compare, Nat.compare_eq_lt]; exact Nat.lt_trans

theorem cmpChars_eq_lex (a b : List Char) :
    cmpChars a b = lexCmp (fun x y => cmpNat x.toNat y.toNat) a b := by
  induction a generalizing b with
  | nil => cases b <;> rfl
  | cons x as ih =>
    cases b with
    | nil => rfl
    | cons y bs =>
      simp only [cmpChars, lexCmp, cmpNat, ih]
      split
      · rfl
      · split <;> rfl

theorem cmpChars_strict : StrictCmp cmpChars :=
  (funext fun a => funext (cmpChars_eq_lex a)) ▸ (cmpNat_strict.comap Char.toNat_inj).lex

theorem cmpIdent_strict : StrictCmp cmpIdent where
  eq {a b} := by cases a <;> cases b <;> simp [cmpIdent, cmpNat_strict.eq, cmpChars_strict.eq]
  gt {a b} := by cases a <;> cases b <;> simp [cmpIdent, cmpNat_strict.gt, cmpChars_strict.gt]
  trans {a b c} := by
    cases a <;> cases b <;> cases c <;> simp [cmpIdent]
    · exact cmpNat_strict.trans
    · exact cmpChars_strict.trans

theorem cmpIdents_eq_lex (a b : Pre) : cmpIdents a b = lexCmp cmpIdent a b := by
  induction a generalizing b with
  | nil => cases b <;> rfl
  | cons x as ih =>
    cases b with
    | nil => rfl
    | cons y bs =>
      simp only [cmpIdents, lexCmp, ih]
      cases cmpIdent x y <;> rfl

theorem cmpIdents_strict : StrictCmp cmpIdents :=
  (funext fun a => funext (cmpIdents_eq_lex a)) ▸ cmpIdent_strict.lex

theorem cmpPre_strict : StrictCmp cmpPre where
  eq {a b} := by cases a <;> cases b <;> simp [cmpPre, cmpIdents_strict.eq]
  gt {a b} := by cases a <;> cases b <;> simp [cmpPre, cmpIdents_strict.gt]
  trans {a b c} := by
    cases a <;> cases b <;> cases c <;> simp [cmpPre]
    exact cmpIdents_strict.trans

/-! Each step `if x ≠ y then <decided here> else <next component>` of a matcher of eval.rs is, read
as a proposition, a step of a lexicographic comparison. -/
theorem ite_ne_gt {x y : Nat} {r : Bool} :
    (if x ≠ y then decide (x > y) else r) = true ↔ y < x ∨ y = x ∧ r = true := by
  by_cases h : x = y
  · simp [h]
  · simp [h]; omega

theorem ite_ne_lt {x y : Nat} {r : Bool} :
    (if x ≠ y then decide (x < y) else r) = true ↔ x < y ∨ x = y ∧ r = true := by
  by_cases h : x = y <;> simp [h]

theorem ite_false_left {p : Prop} [Decidable p] {r : Bool} :
    (if p then false else r) = true ↔ ¬ p ∧ r = true := by
  by_cases h : p <;> simp [h]

theorem preGe_iff {v : Version} {c : Comparator} :
    preGe v c = true ↔ cmpPre c.pre v.pre = .lt ∨ c.pre = v.pre := by
  simp only [preGe, bne_iff_ne]
  exact cmpPre_strict.ne_lt

/-- the minor is empty for a wildcard, after which a number is `UnexpectedAfterWildcard`, or
    because no dot follows at all -/
theorem parsePatch_of_minor_none {dflt op0 text hw op1 t pa op t'}
    (h₁ : parseMinor dflt op0 text = some (none, hw, op1, t))
    (h₂ : parsePatch dflt hw op1 t = some (pa, op, t')) : pa = none := by
  unfold parseMinor at h₁
  unfold parsePatch at h₂
  split at h₁
  · split at h₁
    · cases h₁
      split at h₂
      · split at h₂ <;> cases h₂
        rfl
      · cases h₂; rfl
    · split at h₁ <;> cases h₁
  · rename_i hne
    cases h₁
    split at h₂
    · exact absurd rfl (hne _)
    · cases h₂; rfl

theorem parsePreOpt_none {text p t} (h : parsePreOpt none text = some (p, t)) : p = [] := by
  cases h; rfl

/-- shape of what the parser can produce: a missing minor implies a missing patch; a pre-release
    tag only on a comparator with all three components -/
def Comparator.Shaped (c : Comparator) : Prop :=
  (c.minor = none → c.patch = none) ∧ (c.patch = none → c.pre = [])

theorem parseComparator_shape {s : List Char} {c : Comparator} {rest : List Char}
    (h : parseComparator s = some (c, rest)) : c.Shaped := by
  unfold parseComparator at h
  split at h
  split at h
  · cases h
  split at h
  · cases h
  rename_i hmin
  split at h
  · cases h
  rename_i hpat
  split at h
  · cases h
  rename_i hpre
  split at h <;> cases h
  refine ⟨fun hm => ?_, fun hp => ?_⟩
  · cases hm
    exact parsePatch_of_minor_none hmin hpat
  · cases hp
    exact parsePreOpt_none hpre

theorem versionReq_shape : ∀ (fuel : Nat) (s : List Char) (r : Req),
    versionReq fuel s = some r → ∀ c ∈ r, c.Shaped
  | 0, _, _ => by simp [versionReq]
  | fuel + 1, s, r => by
    unfold versionReq
    intro h
    split at h
    · cases h
    · rename_i c text hc
      have hs := parseComparator_shape hc
      split at h
      · cases h
        exact List.forall_mem_singleton.mpr hs
      · split at h
        · cases h
        · obtain ⟨r', hr, rfl⟩ := Option.map_eq_some_iff.mp h
          exact List.forall_mem_cons.mpr ⟨hs, versionReq_shape fuel _ r' hr⟩
      · cases h

theorem parseReq_shape {s : String} {r : Req} (h : parseReq s = some r) : ∀ c ∈ r, c.Shaped := by
  unfold parseReq parseReqChars at h
  simp only at h
  split at h
  · split at h
    · cases h; simp
    · cases h
  · exact versionReq_shape _ _ _ h

end TypifyModel.Semver
