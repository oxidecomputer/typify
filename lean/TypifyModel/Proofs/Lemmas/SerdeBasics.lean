import TypifyModel.Model.Serde
/-! `Space.get` and `mapM'` facts that several properties use. -/
namespace TypifyModel

theorem Space.get_mem {σ : Space} {t : Id} {ent : Entry} (h : σ.get t = some ent) : (t, ent) ∈ σ.entries := by
  obtain ⟨⟨k, e⟩, hf, rfl⟩ := Option.map_eq_some_iff.mp h
  obtain rfl : k = t := by simpa using List.find?_some hf
  exact List.mem_of_find?_eq_some hf

namespace Serde

/-- the step `mapM'` takes on a non-empty list -/
theorem okCons_inv {β : Type} {r : Except E β} {rs : Except E (List β)} {l : List β}
    (h : (match r with
      | .error e => .error e
      | .ok b => match rs with
        | .error e => .error e
        | .ok bs => .ok (b :: bs) : Except E (List β)) = .ok l) :
    ∃ b bs, r = .ok b ∧ rs = .ok bs ∧ l = b :: bs := by
  cases r with
  | error e => cases h
  | ok b =>
    cases rs with
    | error e => cases h
    | ok bs => exact ⟨b, bs, rfl, rfl, (Except.ok.inj h).symm⟩

theorem mapM'_length {α β : Type} {g : α → Except E β} :
    ∀ {xs : List α} {vs : List β}, mapM' g xs = .ok vs → vs.length = xs.length
  | [], _, h => by cases h; rfl
  | _ :: _, _, h => by
    obtain ⟨b, bs, _, hbs, rfl⟩ := okCons_inv h
    simp only [List.length_cons, mapM'_length hbs]

theorem mapM'_congr {α β : Type} (g g' : α → Except E β) :
    ∀ l : List α, (∀ a ∈ l, g a = g' a) → mapM' g l = mapM' g' l := by
  intro l
  induction l with
  | nil => intro _; rfl
  | cons a r ih =>
    intro h
    simp only [mapM']
    rw [h a (by simp), ih (fun b hb => h b (by simp [hb]))]

theorem firstOk_congr {α : Type} (F G : α → Nat → Except E Val) :
    ∀ (l : List α) (k : Nat), (∀ a ∈ l, ∀ i, F a i = G a i) → firstOk F l k = firstOk G l k := by
  intro l
  induction l with
  | nil => intro k _; rfl
  | cons a r ih =>
    intro k h
    simp only [firstOk]
    rw [h a (by simp) k]
    cases G a k with
    | ok v => rfl
    | error e =>
      cases e <;> simp only
      exact ih (k + 1) (fun b hb i => h b (by simp [hb]) i)

/-- the alternative that produced the value of an untagged enum -/
theorem firstOk_ok {α : Type} {g : α → Nat → Except E Val} :
    ∀ {l : List α} {k : Nat} {v : Val}, firstOk g l k = .ok v → ∃ n a, l[n]? = some a ∧ g a (k + n) = .ok v := by
  intro l
  induction l with
  | nil => intro k v h; cases h
  | cons b r ih =>
    intro k v h
    simp only [firstOk] at h
    split at h
    · cases h; exact ⟨0, b, rfl, by assumption⟩
    · obtain ⟨n, a, hn, ha⟩ := ih h
      exact ⟨n + 1, a, hn, Nat.add_right_comm k 1 n ▸ ha⟩
    · cases h

end Serde
end TypifyModel
