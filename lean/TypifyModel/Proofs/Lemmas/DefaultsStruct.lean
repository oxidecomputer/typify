import TypifyModel.Proofs.Lemmas.DefaultsMaster
import TypifyModel.Proofs.C18
import TypifyModel.Proofs.Lemmas.JsonBasics
/-! C06: struct defaults (no flattened members), member by member against `C18.memberDe`. -/
namespace TypifyModel.Defaults
open TypifyModel TypifyModel.Serde

def info (p : Field) : PropInfo := (some p.wire, p.ty, isRequired p)

theorem noFlatten_mem {props : List Field} (h : hasFlatten props = false) : ∀ p ∈ props, p.rename ≠ .flatten := by
  intro p hp hc
  unfold hasFlatten at h
  rw [List.any_eq_false] at h
  have := h p hp
  simp [hc] at this

theorem allProps_noflat (σ : Space) (n : Nat) (p : Field) (h : p.rename ≠ .flatten) :
    allProps σ (n + 1) p = .ok [info p] := by
  unfold allProps info Field.wire
  cases hr : p.rename with
  | none => rfl
  | rename s => rfl
  | flatten => exact absurd hr h

theorem flatMap_noflat (σ : Space) (n : Nat) : ∀ (props : List Field) (infos : List PropInfo),
    hasFlatten props = false → flatMapE (allProps σ n) props = .ok infos →
      infos = props.map info ∧ (props ≠ [] → n ≠ 0) := by
  intro props
  induction props with
  | nil => intro infos _ h; cases h; exact ⟨rfl, fun h => (h rfl).elim⟩
  | cons p r ih =>
    intro infos hf h
    obtain ⟨hp, hr⟩ := hasFlatten_cons hf
    cases n with
    | zero => cases h
    | succ n =>
      simp only [flatMapE, allProps_noflat σ n p (by simpa using hp)] at h
      split at h
      · cases h
      · rename_i cs hcs
        cases h
        rw [(ih cs hr hcs).1]
        exact ⟨rfl, fun _ => Nat.succ_ne_zero n⟩

theorem lookupNamed_mem {props : List Field} {name : String} {t : Id} {r : Bool} :
    lookupNamed (props.map info) name = some (t, r) → ∃ p ∈ props, p.wire = name ∧ p.ty = t ∧ isRequired p = r := by
  induction props with
  | nil => intro h; simp [lookupNamed] at h
  | cons q rest ih =>
    intro h
    simp only [List.map_cons, lookupNamed] at h
    split at h
    · rename_i y hy
      simp only [Option.some.injEq] at h
      subst h
      obtain ⟨p, hp, h1⟩ := ih hy
      exact ⟨p, by simp [hp], h1⟩
    · split at h
      · rename_i hq
        simp only [info, beq_iff_eq, Option.some.injEq] at hq
        simp only [info, Option.some.injEq, Prod.mk.injEq] at h
        exact ⟨q, by simp, hq, h.1, h.2⟩
      · simp at h

theorem lookupNamed_nodup {props : List Field} (hnd : nodupStrings (props.map (·.wire)) = true) :
    ∀ p ∈ props, lookupNamed (props.map info) p.wire = some (p.ty, isRequired p) := by
  induction props with
  | nil => intro p hp; simp at hp
  | cons q rest ih =>
    simp only [List.map_cons, nodupStrings, Bool.and_eq_true, Bool.not_eq_true'] at hnd
    obtain ⟨hq, hrest⟩ := hnd
    intro p hp
    simp only [List.mem_cons] at hp
    rcases hp with rfl | hp
    · simp only [List.map_cons, lookupNamed]
      cases hl : lookupNamed (rest.map info) p.wire with
      | some y =>
        obtain ⟨t, r⟩ := y
        obtain ⟨p', hp', hw, _, _⟩ := lookupNamed_mem hl
        have : (rest.map (·.wire)).contains p.wire = true := by
          simp only [List.contains_iff_mem, List.mem_map]
          exact ⟨p', hp', hw⟩
        rw [this] at hq; simp at hq
      | none => simp [info]
    · simp only [List.map_cons, lookupNamed, ih hrest p hp]

theorem validateMembers_ok {V : Id → Json → VRes} {props : List Field} :
    ∀ kvs, validateMembers V (props.map info) kvs = .ok () →
      ∀ kv ∈ kvs, ∃ t r k, lookupNamed (props.map info) kv.1 = some (t, r) ∧ V t kv.2 = .ok k := by
  intro kvs
  induction kvs with
  | nil => intro _ kv hkv; simp at hkv
  | cons a rest ih =>
    obtain ⟨name, v⟩ := a
    intro h kv hkv
    simp only [validateMembers] at h
    have hun : ((props.map info).filterMap fun i => if i.1.isNone then some i.2.1 else none) = [] := by
      rw [List.filterMap_eq_nil_iff]
      intro i hi
      simp only [List.mem_map] at hi
      obtain ⟨p, _, rfl⟩ := hi
      simp [info]
    split at h
    · rename_i t r hl
      split at h
      · simp at h
      · rename_i k hk
        simp only [List.mem_cons] at hkv
        rcases hkv with rfl | hkv
        · exact ⟨t, r, k, hl, hk⟩
        · exact ih h kv hkv
    · rw [hun] at h
      simp [anyValid] at h

/-- what `validate_value` and `WFDefault` give for one member of a struct default -/
def PropFact (x : Ext) (σ : Space) (n : Nat) (kvs : List (String × Json)) (p : Field) : Prop :=
  match Json.lookup kvs p.wire with
  | some v => (∃ k, validateValue x σ n p.ty v = .ok k) ∧ WFDefault x σ n p.ty v = true
  | none =>
    match p.state with
    | .required => False
    | .optional => intrinsicDefault σ p.ty = true
    | .dflt _ => False

theorem deStruct_obj (x : Ext) (σ : Space) (m : Nat) (props : List Field) (deny : Bool) (kvs : List (String × Json))
    (hfl : hasFlatten props = false)
    (hkeys : kvs.any (fun kv => !(props.any (fun p => p.wire == kv.1))) = false) :
    deStruct x σ (m + 1) props deny (.obj kvs) =
      (match mapM' (C18.memberDe x σ m (fun p => Json.lookup kvs p.wire)) props with
       | .ok fs => .ok (.struct fs)
       | .error e => .error e) := by
  rw [deStruct]
  simp only [hfl, hkeys, Bool.and_false, Bool.false_eq_true, if_false]
  rfl

theorem intrinsic_impls {σ : Space} {t : Id} (h : intrinsicDefault σ t = true) (n : Nat) :
    implsDefault σ (n + 1) t = true := by
  unfold intrinsicDefault at h
  unfold implsDefault
  cases hg : σ.get t with
  | none => simp only [hg] at h; cases h
  | some ent =>
    obtain ⟨det, ed, im⟩ := ent
    simp only [hg] at h ⊢
    cases det
    case integer name =>
      cases hty : rtyOfName name with
      | none => simp only [hty] at h; cases h
      | some r => simp only [hty] at h; simp only [nz_prefix hty, h]
    all_goals first | rfl | cases h

theorem intrinsic_dflt {x : Ext} {σ : Space} {t : Id} (h : intrinsicDefault σ t = true) (m : Nat) :
    dflt x σ m t ≠ .error .reject := by
  unfold intrinsicDefault at h
  cases m with
  | zero => nofun
  | succ m =>
    unfold dflt
    cases hg : σ.get t with
    | none => simp only [hg] at h; cases h
    | some ent =>
      obtain ⟨det, ed, im⟩ := ent
      simp only [hg] at h ⊢
      cases det
      case integer name =>
        cases hty : rtyOfName name with
        | none => simp only [hty] at h; cases h
        | some r => simp only [hty, Bool.not_eq_true'] at h; simp only [hty, h]; exact nofun
      all_goals first | (intro hc; cases hc) | cases h

theorem direct_out (x : Ext) (σ : Space) (n : Nat) (ih : Good x σ n) (kvs : List (String × Json)) :
    ∀ ps, (∀ p ∈ ps, p.rename ≠ .flatten) → (∀ p ∈ ps, PropFact x σ n kvs p) → (ps ≠ [] → n ≠ 0) →
      ∃ fs, outDirect (outputValue x σ n) kvs ps = .ok fs ∧
        fieldsOk (implsDefault σ n) (fun a t' => hasType σ n a t') ps fs = true ∧
        ∀ m, Sim (evalFields (dflt x σ m) (fun a t' => eval x σ m a t') ps fs)
          (mapM' (C18.memberDe x σ m (fun p => Json.lookup kvs p.wire)) ps) := by
  intro ps
  induction ps with
  | nil => intro _ _ _; exact ⟨[], rfl, rfl, fun m => .ok []⟩
  | cons p r ihl =>
    intro hnf hpf hfuel
    obtain ⟨fs, hfs, hhs, hes⟩ := ihl (fun q hq => hnf q (List.mem_cons_of_mem _ hq))
      (fun q hq => hpf q (List.mem_cons_of_mem _ hq)) (fun _ => hfuel (List.cons_ne_nil _ _))
    have hp : (p.rename == Rename.flatten) = false := beq_false_of_ne (hnf p List.mem_cons_self)
    have hfact := hpf p List.mem_cons_self
    unfold PropFact at hfact
    cases hl : Json.lookup kvs p.wire with
    | some v =>
      rw [hl] at hfact
      obtain ⟨⟨k, hk⟩, hw⟩ := hfact
      obtain ⟨e, ho, hh, hr⟩ := ih p.ty v k hk hw
      refine ⟨(p.name, some e) :: fs, ?_, ?_, fun m => ?_⟩
      · simp only [outDirect, hp, Bool.false_eq_true, if_false, hl, ho, hfs]
      · simp only [fieldsOk, beq_self_eq_true, hh, hhs, Bool.and_self]
      · simp only [evalFields, fieldVal, mapM', C18.memberDe, hl]
        exact (hr m).lift (fun _ => (hes m).lift (fun _ => .ok _) fun _ => .err) fun _ => .err
    | none =>
      rw [hl] at hfact
      cases hst : p.state with
      | optional =>
        rw [hst] at hfact
        obtain ⟨n, rfl⟩ := Nat.exists_eq_succ_of_ne_zero (hfuel (List.cons_ne_nil _ _))
        refine ⟨(p.name, none) :: fs, ?_, ?_, fun m => ?_⟩
        · simp only [outDirect, hp, Bool.false_eq_true, if_false, hl, hfs]
        · simp only [fieldsOk, beq_self_eq_true, intrinsic_impls hfact n, hhs, Bool.and_self]
        · have hd : Sim (dflt x σ m p.ty) (dflt x σ m p.ty) := ⟨rfl, intrinsic_dflt hfact m⟩
          simp only [evalFields, fieldVal, mapM', C18.memberDe, hl, hst]
          exact hd.lift (fun _ => (hes m).lift (fun _ => .ok _) fun _ => .err) fun _ => .err
      | _ => rw [hst] at hfact; exact hfact.elim

theorem outFlat_noflat (σ : Space) (O : Id → Json → Out) (extra : Json) :
    ∀ props, (∀ p ∈ props, p.rename ≠ .flatten) → outFlat σ O extra props = .ok [] := by
  intro props
  induction props with
  | nil => intro _; rfl
  | cons p r ih =>
    intro h
    simp only [outFlat, bne_iff_ne, ne_eq, h p List.mem_cons_self, not_false_eq_true, if_true]
    exact ih (fun q hq => h q (List.mem_cons_of_mem _ hq))

theorem writtenOrder_noflat {props : List Field} (h : ∀ p ∈ props, p.rename ≠ .flatten) : writtenOrder props = props := by
  unfold writtenOrder
  rw [List.filter_eq_self.mpr (fun p hp => by simpa using h p hp),
    List.filter_eq_nil_iff.mpr (fun p hp => by simpa using h p hp), List.append_nil]

theorem struct_out (x : Ext) (σ : Space) (n : Nat) (ih : Good x σ n) (props : List Field) (d : Json) (kd : DKind)
    (hv : validateStruct σ n (validateValue x σ n) props d = .ok kd)
    (hw : wfStruct σ n (validateValue x σ n) (WFDefault x σ n) props d = true) :
    ∃ kvs fs, d = .obj kvs ∧ valueForStructProps σ (outputValue x σ n) props d = .ok fs ∧
      fieldsOk (implsDefault σ n) (fun a t' => hasType σ n a t') (writtenOrder props) fs = true ∧
      ∀ m deny, Sim (evalStruct x σ m props fs) (deStruct x σ m props deny (.obj kvs)) := by
  unfold validateStruct at hv
  cases d with
  | obj kvs =>
    unfold wfStruct at hw
    simp only [Bool.and_eq_true, Bool.not_eq_true', List.all_eq_true] at hw
    obtain ⟨⟨hfl, hnd⟩, hall⟩ := hw
    have hnf := noFlatten_mem hfl
    cases hfm : flatMapE (allProps σ n) props with
    | error e => simp only [hfm] at hv; cases hv
    | ok infos =>
      obtain ⟨rfl, hfuel⟩ := flatMap_noflat σ n props infos hfl hfm
      cases hvm : validateMembers (validateValue x σ n) (props.map info) kvs with
      | error e => simp only [hfm, hvm] at hv; cases hv
      | ok u =>
        simp only [hfm, hvm] at hv
        have hreq : ∀ p ∈ props, isRequired p = true → (Json.lookup kvs p.wire).isSome = true := by
          split at hv
          · rename_i hreq
            intro p hp hr
            have := List.all_eq_true.mp hreq (info p) (List.mem_map_of_mem hp)
            simpa only [info, hr] using this
          · cases hv
        have hmem := validateMembers_ok kvs hvm
        have hkeys : kvs.any (fun kv => !(props.any (fun p => p.wire == kv.1))) = false := by
          rw [List.any_eq_false]
          intro kv hkv
          obtain ⟨t, r, k, hl, _⟩ := hmem kv hkv
          obtain ⟨p, hp, hpw, _, _⟩ := lookupNamed_mem hl
          simp only [Bool.not_eq_true', Bool.not_eq_false, List.any_eq_true]
          exact ⟨p, hp, beq_iff_eq.mpr hpw⟩
        have hfacts : ∀ p ∈ props, PropFact x σ n kvs p := by
          intro p hp
          unfold PropFact
          have hwp := hall p hp
          cases hl : Json.lookup kvs p.wire with
          | some v =>
            rw [hl] at hwp
            obtain ⟨t, r, k, hln, hk⟩ := hmem (p.wire, v) (Json.lookup_mem hl)
            rw [lookupNamed_nodup hnd p hp] at hln
            cases hln
            exact ⟨⟨k, hk⟩, hwp⟩
          | none =>
            rw [hl] at hwp
            cases hst : p.state with
            | required =>
              have := hreq p hp (by simp only [isRequired, hst])
              rw [hl] at this
              cases this
            | optional => rw [hst] at hwp; exact hwp
            | dflt d' => rw [hst] at hwp; cases hwp
        obtain ⟨fs, hfs, hhs, hes⟩ := direct_out x σ n ih kvs props hnf hfacts hfuel
        refine ⟨kvs, fs, rfl, ?_, ?_, fun m deny => ?_⟩
        · simp only [valueForStructProps, hfs, outFlat_noflat σ _ _ props hnf, List.append_nil]
        · rw [writtenOrder_noflat hnf]; exact hhs
        · cases m with
          | zero => exact .fuel
          | succ m =>
            rw [deStruct_obj x σ m props deny kvs hfl hkeys, evalStruct]
            simp only [hfl, Bool.false_eq_true, if_false]
            exact (hes m).lift (fun _ => .ok _) fun _ => .err
  | _ => cases hv

end TypifyModel.Defaults
