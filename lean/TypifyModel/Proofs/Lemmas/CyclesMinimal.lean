import TypifyModel.Proofs.Lemmas.CyclesVisit
/-! C07, minimality: without a by-value cycle reachable from the roots nothing is ever `active`
    when it is met again, so nothing is snipped and the graph is returned unchanged. -/
namespace TypifyModel.Cycles

/-- no by-value cycle through a node reachable from the roots -/
def Acyclic (g : G) (lo hi : Nat) : Prop := ∀ u, Reach g lo hi u → ¬ Path g u u

theorem visit_min {g0 : G} {lo hi : Nat} (hac : Acyclic g0 lo hi) {fuel : Nat} {act : List Nat}
    {u : Nat} {s s' : St} (h : visit fuel act u s = some s') :
    s.g = g0 → Reach g0 lo hi u → (∀ a ∈ act, Path g0 a u) → s'.g = g0 :=
  visit_rule
    (R := fun act u s s' => s.g = g0 → Reach g0 lo hi u → (∀ a ∈ act, Path g0 a u) → s'.g = g0)
    (fun _ hg _ _ => hg) (fun _ _ hg _ _ => hg)
    (fun {_ act u s node s2} _ hu ih h2 hg hr hp => by
      subst hg
      have he : ∀ c ∈ node.childIds, E s.g u c := fun c hc => ⟨node, hu, hc⟩
      -- a child in `u :: act` would close a cycle through itself
      have hna : ∀ c ∈ node.childIds, c ∉ u :: act := fun c hc hmem =>
        hac c (.step hr (he c hc)) (Path.descend hp (he c hc) c hmem)
      rw [startG_noop hu hna] at h2
      refine visitList_fold (P := fun s' => s'.g = s.g) (s' := s2) h2
        (fun c hc s1 s1' h hs =>
          have hc := he c (mem_desc.mp hc).1
          ih c s1 s1' h hs (.step hr hc) (Path.descend hp hc))
        (rfl : (s.push u s.g).g = s.g))
    h

theorem breakCyclesSt_min {fuel : Nat} {g : G} {lo hi : Nat} {s : St} (hac : Acyclic g lo hi)
    (h : breakCyclesSt fuel g lo hi = some s) : s.g = g :=
  visitList_fold (P := fun s => s.g = g) h
    (fun _ hc _ _ h hs =>
      visit_min hac h hs (.root (mem_roots.mp hc).1 (mem_roots.mp hc).2) fun _ => nofun)
    rfl

end TypifyModel.Cycles
