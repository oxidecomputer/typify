import TypifyModel.Proofs.Lemmas.RoundTripStruct
/-! Reading back the members `seFieldsR` wrote; structs without a flattened member (C03). -/
namespace TypifyModel.RoundTrip
open TypifyModel TypifyModel.Serde

variable (x : Ext) (σ : Space)

theorem seFieldsR_keys {rec : Id → Val → Except E Json} :
    ∀ {ps : List Field} {fs : List (String × Val)} {es : List (String × Json)}, hasFlatten ps = false →
      seFieldsR rec σ ps fs = .ok es → ∀ kv ∈ es, ∃ p ∈ ps, p.wire = kv.1 := by
  intro ps
  induction ps with
  | nil =>
    intro fs es _ h kv hkv
    cases fs <;> cases h
    cases hkv
  | cons p r ih =>
    intro fs es hfl h kv hkv
    obtain ⟨hpf, hrf⟩ := hasFlatten_cons hfl
    have ih : ∀ {fs es}, seFieldsR rec σ r fs = .ok es → ∀ kv ∈ es, ∃ q ∈ p :: r, q.wire = kv.1 :=
      fun h kv hkv => let ⟨q, hq, hw⟩ := ih hrf h kv hkv; ⟨q, List.mem_cons_of_mem _ hq, hw⟩
    cases fs with
    | nil => cases h
    | cons a as =>
      simp only [seFieldsR, hpf, Bool.false_eq_true, if_false] at h
      split at h
      next => cases h
      next rest hrest =>
        split at h
        next => cases h; exact ih hrest kv hkv
        next =>
          split at h
          next => cases h
          next j _ =>
            cases h
            rcases List.mem_cons.mp hkv with rfl | hkv
            · exact ⟨p, List.mem_cons_self, rfl⟩
            · exact ih hrest kv hkv

theorem seStruct_keys {f : Nat} {ps : List Field} {fs : List (String × Val)}
    {es : List (String × Json)} (hfl : hasFlatten ps = false) (h : seStruct σ f ps fs = .ok es) :
    ∀ kv ∈ es, ∃ p ∈ ps, p.wire = kv.1 := by
  cases f with
  | zero => simp [seStruct] at h
  | succ f' => simp only [seStruct] at h; exact seFieldsR_keys σ hfl h

theorem lookup_none_of_not_key {es : List (String × Json)} {k : String}
    (h : ∀ kv ∈ es, kv.1 ≠ k) : Json.lookup es k = none := by
  induction es with
  | nil => rfl
  | cons a r ih =>
    simp only [Json.lookup, h a List.mem_cons_self, if_false]
    exact ih fun kv hkv => h kv (List.mem_cons_of_mem _ hkv)

theorem skipped_cases {p : Field} {a : Val} (h : skipped σ p a = true) :
    (p.state matches .optional) ∧
    (((∃ t' ed im, σ.get p.ty = some ⟨.option t', ed, im⟩) ∧ a = .none) ∨
     ((∃ t' ed im, σ.get p.ty = some ⟨.vec t', ed, im⟩) ∧ a = .seq []) ∨
     ((∃ k v ed im, σ.get p.ty = some ⟨.map k v, ed, im⟩) ∧ a = .map [])) := by
  unfold skipped at h
  split at h
  next hst =>
    refine ⟨by rw [hst], ?_⟩
    split at h
    next t' ed im hg =>
      split at h
      · exact Or.inl ⟨⟨t', ed, im, hg⟩, rfl⟩
      · cases h
    next t' ed im hg =>
      split at h
      · exact Or.inr (Or.inl ⟨⟨t', ed, im, hg⟩, rfl⟩)
      · cases h
    next k v ed im hg =>
      split at h
      · exact Or.inr (Or.inr ⟨⟨k, v, ed, im, hg⟩, rfl⟩)
      · cases h
    next => cases h
  next => cases h

/-- the empty container `skip_serializing_if` drops is the `Default::default()` a missing member takes -/
theorem skipped_dflt {p : Field} {a : Val} (h : skipped σ p a = true) (f : Nat) :
    p.state = .optional ∧ dflt x σ (f + 1) p.ty = .ok a := by
  obtain ⟨hst, hk⟩ := skipped_cases σ h
  constructor
  · cases hs : p.state <;> simp [hs] at hst ⊢
  · rcases hk with ⟨⟨t', ed, im, hg⟩, rfl⟩ | ⟨⟨t', ed, im, hg⟩, rfl⟩ | ⟨⟨k, v, ed, im, hg⟩, rfl⟩ <;>
      simp only [dflt, hg]

theorem dflt_image {t : Id} {f : Nat} {a : Val} (hok : optionalOkB σ t = true)
    (hd : dflt x σ f t = .ok a) : ∃ j, de x σ f t j = .ok a := by
  cases f with
  | zero => cases hd
  | succ f =>
    unfold optionalOkB at hok
    cases hg : σ.get t with
    | none => rw [hg] at hok; cases hok
    | some ent =>
      obtain ⟨det, ed, im⟩ := ent
      rw [hg] at hok
      simp only [dflt, hg] at hd
      cases det with
      | option t' => cases hd; exact ⟨.null, by simp only [de, hg]⟩
      | vec t' => cases hd; exact ⟨.arr [], by simp only [de, hg, mapM']⟩
      | map k v => cases hd; exact ⟨.obj [], by simp only [de, hg, mapM', List.foldl_nil]⟩
      | boolean => cases hd; exact ⟨.bool false, by simp only [de, hg]⟩
      | float n => cases hd; exact ⟨.flt 0 0, by simp only [de, hg]⟩
      | string => cases hd; exact ⟨.str "", by simp only [de, hg]⟩
      | unit => cases hd; exact ⟨.null, by simp only [de, hg]⟩
      | integer n =>
        simp only at hok hd
        split at hd
        next ty hty =>
          simp only [hty, Bool.not_eq_true'] at hok
          simp only [hok, Bool.false_eq_true, if_false] at hd
          cases hd
          have : ty.lo ≤ 0 ∧ 0 ≤ ty.hi := by
            cases ty <;> simp [RTy.isNonZero] at hok <;> simp [RTy.lo, RTy.hi]
          exact ⟨.int 0, by simp only [de, hg, hty, this, and_self, if_true]⟩
        next => cases hd
      | _ => cases hok

theorem FieldVal.image {f : Nat} {p : Field} {a : Val} (h : FieldVal x σ f p a)
    (hopt : (p.state matches .optional) → optionalOkB σ p.ty = true) : ∃ j, de x σ f p.ty j = .ok a :=
  h.elim id fun ⟨hst, hd⟩ => dflt_image x σ (hopt hst) hd

/-- `RTat` (below) for every type of the space at once -/
def IHrt (f : Nat) : Prop :=
  ∀ t v xv w, de x σ f t v = .ok xv → se σ f t xv = .ok w → de x σ f t w = .ok xv

/-- round trip of one type at one fuel -/
def RTat (f : Nat) (t : Id) : Prop :=
  ∀ v xv w, de x σ f t v = .ok xv → se σ f t xv = .ok w → de x σ f t w = .ok xv

/-- the members `seFieldsR` wrote read back from any object that looks up their wire names as the written entries do -/
theorem fields_back {f : Nat} :
    ∀ (ps : List Field), (∀ p ∈ ps, RTat x σ f p.ty) →
      ∀ (fs : List (String × Val)) (es : List (String × Json)),
      FieldsRel x σ f ps fs → seFieldsR (se σ f) σ ps fs = .ok es →
      nodupB (ps.map (·.wire)) = true →
      (∀ p ∈ ps, (p.state matches .optional) → optionalOkB σ p.ty = true) → hasFlatten ps = false →
      ∀ obj : List (String × Json), (∀ p ∈ ps, Json.lookup obj p.wire = Json.lookup es p.wire) →
        mapM' (stepE x σ f obj) ps = .ok fs := by
  intro ps
  induction ps with
  | nil =>
    intro _ fs es hrel _ _ _ _ obj _
    cases fs with
    | nil => rfl
    | cons _ _ => cases hrel
  | cons p r ihp =>
    intro ih fs es hrel hse hnd hopt hfl obj hobj
    obtain ⟨hpf, hrf⟩ := hasFlatten_cons hfl
    cases fs with
    | nil => cases hrel
    | cons a as =>
      obtain ⟨n, av⟩ := a
      obtain ⟨rfl, hfv, hrel'⟩ := hrel
      obtain ⟨hne, hnd'⟩ := nodupB_cons hnd
      have hp : p ∈ p :: r := List.mem_cons_self
      -- the member's value was read from some document; in particular there is fuel
      obtain ⟨j0, hj0⟩ := hfv.image x σ (hopt p hp)
      obtain ⟨f', rfl⟩ : ∃ f', f = f' + 1 := by
        cases f with
        | zero => cases hj0
        | succ f' => exact ⟨f', rfl⟩
      simp only [seFieldsR, hpf, Bool.false_eq_true, if_false] at hse
      split at hse
      next => cases hse
      next rest hrest =>
        have hrestkeys : ∀ kv ∈ rest, kv.1 ≠ p.wire := by
          intro kv hkv
          obtain ⟨q, hq, hw⟩ := seFieldsR_keys σ hrf hrest kv hkv
          exact hw ▸ hne q.wire (List.mem_map_of_mem hq)
        have htail := ihp (fun q hq => ih q (List.mem_cons_of_mem _ hq)) as rest hrel' hrest hnd'
          (fun q hq => hopt q (List.mem_cons_of_mem _ hq)) hrf obj
        split at hse
        next hsk =>
          -- skipped: the member is absent and its default is what was dropped
          cases hse
          obtain ⟨hst, hd⟩ := skipped_dflt x σ hsk f'
          have hstep : stepE x σ (f' + 1) obj p = .ok (p.name, av) := by
            simp only [stepE, hobj p hp, lookup_none_of_not_key hrestkeys, hst, hd]
          simp only [mapM', hstep, htail fun q hq => hobj q (List.mem_cons_of_mem _ hq)]
        next =>
          split at hse
          next => cases hse
          next j hj =>
            cases hse
            have hstep : stepE x σ (f' + 1) obj p = .ok (p.name, av) := by
              simp only [stepE, hobj p hp, Json.lookup, if_true, ih p hp j0 av j hj0 hj]
            simp only [mapM', hstep, htail fun q hq => by
              have : p.wire ≠ q.wire := fun h => hne q.wire (List.mem_map_of_mem hq) h.symm
              simp only [hobj q (List.mem_cons_of_mem _ hq), Json.lookup, this, if_false]]

theorem fieldsOk_unpack {ps : List Field} (h : fieldsOkB σ ps = true) :
    hasFlatten ps = false ∧ nodupB (ps.map (·.wire)) = true ∧
    (ps.all (fun p => match p.state with | .required => !optionLikeT σ p.ty | _ => true) = true) ∧
    (∀ p ∈ ps, (p.state matches .optional) → optionalOkB σ p.ty = true) := by
  simp only [fieldsOkB, Bool.and_eq_true, Bool.not_eq_true'] at h
  obtain ⟨⟨h1, h2⟩, h3⟩ := h
  refine ⟨h1, h2, ?_, ?_⟩
  · apply List.all_eq_true.mpr
    intro p hp
    have := (List.all_eq_true.mp h3) p hp
    cases hst : p.state <;> simp [hst] at this ⊢
    exact this
  · intro p hp hst
    have := (List.all_eq_true.mp h3) p hp
    cases hs : p.state <;> simp [hs] at hst this
    exact this

/-- **structs**: reading back what was written gives the same members -/
theorem struct_rt {f : Nat} {ps : List Field} (hih : ∀ p ∈ ps, RTat x σ f p.ty)
    (hok : fieldsOkB σ ps = true) {deny : Bool} {v : Json} {fs : List (String × Val)}
    {es : List (String × Json)}
    (h1 : deStruct x σ (f + 1) ps deny v = .ok (.struct fs))
    (h2 : seStruct σ (f + 1) ps fs = .ok es) :
    deStruct x σ (f + 1) ps deny (.obj es) = .ok (.struct fs) := by
  obtain ⟨hfl, hnd, hreq, hopt⟩ := fieldsOk_unpack σ hok
  have hrel : FieldsRel x σ f ps fs := by
    cases v with
    | obj kvs => exact deStruct_obj_rel x σ hreq hfl h1
    | arr xs => exact deStruct_arr_rel x σ h1
    | _ => simp [deStruct, hfl] at h1
  simp only [seStruct] at h2
  have hback := fields_back x σ ps hih fs es hrel h2 hnd hopt hfl es (fun _ _ => rfl)
  -- with `deny`, every key written is the wire name of a member
  have hdeny : (deny && es.any (fun kv => !(ps.any (fun p => p.wire == kv.1)))) = false := by
    cases deny with
    | false => rfl
    | true =>
      refine Bool.eq_false_iff.mpr fun hany => ?_
      obtain ⟨kv, hkv, hk⟩ := List.any_eq_true.mp hany
      obtain ⟨p, hp, hw⟩ := seFieldsR_keys σ hfl h2 kv hkv
      simp only [Bool.not_eq_true', List.any_eq_false] at hk
      simpa [hw] using hk p hp
  simp only [deStruct_obj x σ hfl, hdeny, Bool.false_eq_true, if_false, hback]

end TypifyModel.RoundTrip
