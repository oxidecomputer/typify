import TypifyModel.Proofs.Lemmas.CyclesLemmas
/-! C07, the traversal side: one induction principle for `visit` (`visit_rule`), and what every call
    does to the state whatever the graph looks like (`Ext`). -/
namespace TypifyModel.Cycles

def St.push (s : St) (u : Nat) (g : G) : St := { g := g, visited := u :: s.visited, fin := s.fin }

/-- `u` is finished -/
def St.pop (s : St) (u : Nat) : St := { s with fin := u :: s.fin }

/-- the children the traversal descends into, in its order (`children_ids.pop()`: last child first) -/
def desc (node : Node) (act : List Nat) : List Nat :=
  (node.childIds.filter (fun c => !decide (c ∈ act))).reverse

theorem mem_desc {node : Node} {act : List Nat} {c : Nat} :
    c ∈ desc node act ↔ c ∈ node.childIds ∧ c ∉ act := by
  simp [desc]

theorem visit_succ (fuel : Nat) (act : List Nat) (u : Nat) (s : St) :
    visit (fuel + 1) act u s =
      if u ∈ s.visited then some s else
      match s.g.get u with
      | none => some ((s.push u s.g).pop u)
      | some node =>
        match visitList (visit fuel (u :: act)) (desc node (u :: act))
            (s.push u (startG s.g (u :: act) u node)) with
        | none => none
        | some s2 => some (s2.pop u) := rfl

theorem visitList_cons {f : Nat → St → Option St} {c : Nat} {cs : List Nat} {s s' : St} :
    visitList f (c :: cs) s = some s' ↔ ∃ s1, f c s = some s1 ∧ visitList f cs s1 = some s' := by
  rw [visitList]
  cases f c s <;> simp

/-- induction over the calls of `visit` that return: a visited id, a missing entry (the Rust code
    would panic), a call that descends -/
theorem visit_rule {R : List Nat → Nat → St → St → Prop}
    (skip : ∀ {act u s}, u ∈ s.visited → R act u s s)
    (missing : ∀ {act u s}, u ∉ s.visited → s.g.get u = none → R act u s ((s.push u s.g).pop u))
    (node : ∀ {fuel act u s node s2}, u ∉ s.visited → s.g.get u = some node →
      (∀ c s s', visit fuel (u :: act) c s = some s' → R (u :: act) c s s') →
      visitList (visit fuel (u :: act)) (desc node (u :: act))
        (s.push u (startG s.g (u :: act) u node)) = some s2 →
      R act u s (s2.pop u))
    {fuel : Nat} {act : List Nat} {u : Nat} {s s' : St} (h : visit fuel act u s = some s') :
    R act u s s' := by
  induction fuel generalizing act u s s' with
  | zero => cases h
  | succ fuel ih =>
    rw [visit_succ] at h
    split at h
    · cases h; exact skip ‹_›
    · split at h
      · cases h; exact missing ‹_› ‹_›
      · split at h
        · cases h
        · cases h; exact node ‹_› ‹_› (fun _ _ _ => ih) ‹_›

theorem visitList_fold {f : Nat → St → Option St} {P : St → Prop} :
    ∀ {cs : List Nat} {s s' : St}, visitList f cs s = some s' →
      (∀ c ∈ cs, ∀ s s', f c s = some s' → P s → P s') → P s → P s'
  | [], _, _, h, _, hp => Option.some.inj h ▸ hp
  | c :: _, s, _, h, hf, hp =>
    let ⟨s1, h1, h2⟩ := visitList_cons.mp h
    visitList_fold h2 (fun d hd => hf d (List.mem_cons_of_mem _ hd))
      (hf c List.mem_cons_self s s1 h1 hp)

/-- what every (sub)traversal leaves alone -/
structure Ext (s s' : St) : Prop where
  vis : ∀ x ∈ s.visited, x ∈ s'.visited
  newFin : ∀ x ∈ s'.fin, x ∈ s.fin ∨ x ∉ s.visited
  edges : ∀ x ∈ s.visited, ∀ v, E s'.g x v → E s.g x v
  leaf : ∀ v, Leaf s.g v → Leaf s'.g v

theorem Ext.refl (s : St) : Ext s s :=
  ⟨fun _ h => h, fun _ h => Or.inl h, fun _ _ _ h => h, fun _ h => h⟩

theorem Ext.trans {s s' s'' : St} (a : Ext s s') (b : Ext s' s'') : Ext s s'' where
  vis x h := b.vis x (a.vis x h)
  newFin x h := by
    rcases b.newFin x h with h1 | h1
    · exact a.newFin x h1
    · exact Or.inr (fun hx => h1 (a.vis x hx))
  edges x hx v h := a.edges x hx v (b.edges x (a.vis x hx) v h)
  leaf v h := b.leaf v (a.leaf v h)

variable {s s' : St} {act : List Nat} {u : Nat} {fuel : Nat}

theorem Ext.push {g : G} (he : ∀ x ∈ s.visited, ∀ v, E g x v → E s.g x v)
    (hl : ∀ v, Leaf s.g v → Leaf g v) : Ext s (s.push u g) :=
  ⟨fun _ => List.mem_cons_of_mem u, fun _ => Or.inl, he, hl⟩

theorem Ext.pop (e : Ext s s') (hv : u ∉ s.visited) : Ext s (s'.pop u) :=
  { e with newFin := fun x hx => (List.mem_cons.mp hx).elim (fun h => .inr (h ▸ hv)) (e.newFin x) }

theorem Ext.start {node : Node} (hv : u ∉ s.visited) (hu : s.g.get u = some node) :
    Ext s (s.push u (startG s.g act u node)) :=
  .push (fun _ hx _ => startG_edges fun e => hv (e ▸ hx)) fun _ => startG_leaf hu

theorem visitList_ext {f : Nat → St → Option St}
    (hf : ∀ c s s', f c s = some s' → Ext s s' ∧ c ∈ s'.visited) :
    ∀ {cs : List Nat} {s s' : St}, visitList f cs s = some s' →
      Ext s s' ∧ ∀ c ∈ cs, c ∈ s'.visited
  | [], s, _, h => Option.some.inj h ▸ ⟨.refl s, fun _ hc => nomatch hc⟩
  | c :: _, s, _, h =>
    let ⟨s1, h1, h2⟩ := visitList_cons.mp h
    let ⟨e1, v1⟩ := hf c s s1 h1
    let ⟨e2, v2⟩ := visitList_ext hf h2
    ⟨e1.trans e2, fun d hd => (List.mem_cons.mp hd).elim (fun e => e ▸ e2.vis c v1) (v2 d)⟩

theorem visit_ext (h : visit fuel act u s = some s') : Ext s s' ∧ u ∈ s'.visited :=
  visit_rule (R := fun _ u s s' => Ext s s' ∧ u ∈ s'.visited)
    (fun hv => ⟨.refl _, hv⟩)
    (fun hv _ => ⟨(Ext.push (fun _ _ _ => id) fun _ => id).pop hv, List.mem_cons_self⟩)
    (fun hv hu ih h2 =>
      let ⟨e2, _⟩ := visitList_ext ih h2
      ⟨((Ext.start hv hu).trans e2).pop hv, e2.vis _ List.mem_cons_self⟩)
    h

theorem visitList_visit_ext {cs : List Nat}
    (h : visitList (visit fuel act) cs s = some s') : Ext s s' ∧ ∀ c ∈ cs, c ∈ s'.visited :=
  visitList_ext (fun _ _ _ => visit_ext) h

end TypifyModel.Cycles
