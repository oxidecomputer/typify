import TypifyModel.Model.Wf
import TypifyModel.Proofs.Lemmas.SettingsApplyLemmas
/-! For C01: the Boolean list checks of `WF` against their `Prop` forms, and the tree view of `type_ident`. -/
namespace TypifyModel.Wf
open TypifyModel TypifyModel.Render TypifyModel.SettingsApply

theorem pairwiseB_iff {α : Type} (r : α → α → Bool) (l : List α) :
    pairwiseB r l = true ↔ l.Pairwise (fun a b => r a b = true) := by
  induction l with
  | nil => simp [pairwiseB]
  | cons a l ih =>
    simp only [pairwiseB, Bool.and_eq_true, List.all_eq_true, List.pairwise_cons, ih]

theorem nodupB_iff (l : List String) : nodupB l = true ↔ l.Nodup := by
  unfold nodupB
  rw [pairwiseB_iff]
  unfold List.Nodup
  constructor <;> intro h <;> refine h.imp ?_ <;> intro a b hab <;> simpa using hab

theorem keysNodup_iff (σ : Space) : keysNodup σ = true ↔ (σ.entries.map (·.1)).Nodup := by
  unfold keysNodup
  rw [pairwiseB_iff]
  unfold List.Nodup
  constructor <;> intro h <;> refine h.imp ?_ <;> intro a b hab <;> simpa using hab

theorem renderList_map (st : Settings) {α : Type} (g : α → Ty) (l : List α) :
    Ty.renderList st (l.map g) = l.map (fun a => (g a).render st) := by
  induction l with
  | nil => simp [Ty.renderList]
  | cons a r ih => simp [Ty.renderList, ih]

/-- **`type_ident` is the rendering of the type tree** -/
theorem typeIdent_eq_render (st : Settings) (σ : Space) : ∀ (f : Nat) (t : Id),
    typeIdent st σ f t = (tyOf σ f t).render st := by
  intro f
  induction f with
  | zero =>
    intro t
    have h1 : typeIdent st σ 0 t = "?" := rfl
    have h2 : tyOf σ 0 t = Ty.bad := rfl
    rw [h1, h2]; simp only [Ty.render]
  | succ f ih =>
    intro t
    have hm : ∀ l : List Id, l.map (typeIdent st σ f) = l.map (fun a => (tyOf σ f a).render st) :=
      fun l => List.map_congr_left (fun a _ => ih a)
    unfold typeIdent tyOf
    cases hg : σ.get t with
    | none => simp only [Ty.render]
    | some ent =>
      simp only
      cases hd : ent.details with
      | option t' =>
        simp only
        split
        · rename_i heq; simp only [heq]; exact ih t'
        · split
          · simp_all
          · simp only [Ty.render, wrapStr, ih t']
      | box t' => simp only [Ty.render, wrapStr, ih t']
      | vec t' => simp only [Ty.render, wrapStr, ih t']
      | set t' => simp only [Ty.render, wrapStr, ih t']
      | map k v =>
        simp only
        split
        · rename_i h1 h2; simp only [h1, h2, Ty.render]
        · rename_i hne
          split
          · rename_i h1 h2; exact (hne _ _ _ _ h1 h2).elim
          · simp only [Ty.render, mapStr, ih k, ih v]
      | tuple ts =>
        simp only [Ty.render, renderList_map]
        cases ts with
        | nil => simp only [tupleStr, List.map_nil]
        | cons a r =>
          cases r with
          | nil => simp only [tupleStr, List.map_cons, List.map_nil, ih a]
          | cons b r' => simp only [hm, List.map_cons, tupleStr]
      | array t' n => simp only [Ty.render, arrStr, ih t']
      | native name ps =>
        simp only [Ty.render, renderList_map, nativeStr, List.isEmpty_map, hm]
      | _ => simp only [Ty.render]

end TypifyModel.Wf
