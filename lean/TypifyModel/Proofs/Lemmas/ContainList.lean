import TypifyModel.Proofs.Lemmas.ContainRefl
import TypifyModel.Proofs.Lemmas.SortedKv
/-! Containment through the list helpers of the Serde model (C03): element-wise over `mapM'` /
    `zipM` / `zipSe`, and member-wise through the key-sorted map built by `insertKv`. -/
namespace TypifyModel.Contain
open TypifyModel TypifyModel.Serde TypifyModel.RoundTrip

theorem mapM'_cons_ok {α β : Type} {g : α → Except E β} {a : α} {r : List α} {ys : List β}
    (h : mapM' g (a :: r) = .ok ys) : ∃ b bs, g a = .ok b ∧ mapM' g r = .ok bs ∧ ys = b :: bs := by
  simp only [mapM'] at h
  split at h
  · cases h
  · rename_i b hb
    split at h
    · cases h
    · rename_i bs hbs
      cases h
      exact ⟨b, bs, hb, hbs, rfl⟩

theorem zipM_cons_ok {g : Id → Json → Except E Val} {t : Id} {ts : List Id} {xs : List Json} {vs : List Val}
    (h : zipM g (t :: ts) xs = .ok vs) :
    ∃ a as b bs, xs = a :: as ∧ g t a = .ok b ∧ zipM g ts as = .ok bs ∧ vs = b :: bs := by
  cases xs with
  | nil => cases h
  | cons a as =>
    simp only [zipM] at h
    split at h
    · cases h
    · rename_i b hb
      split at h
      · cases h
      · rename_i bs hbs
        cases h
        exact ⟨a, as, b, bs, rfl, hb, hbs, rfl⟩

theorem zipSe_cons_ok {g : Id → Val → Except E Json} {t : Id} {ts : List Id} {v : Val} {vs : List Val}
    {js : List Json} (h : zipSe g (t :: ts) (v :: vs) = .ok js) :
    ∃ c cs, g t v = .ok c ∧ zipSe g ts vs = .ok cs ∧ js = c :: cs := by
  simp only [zipSe] at h
  split at h
  · cases h
  · rename_i c hc
    split at h
    · cases h
    · rename_i cs hcs
      cases h
      exact ⟨c, cs, hc, hcs, rfl⟩

theorem mapM'_contained {g : Json → Except E Val} {h : Val → Except E Json} {D : Json → Bool} :
    ∀ {xs : List Json} {vs : List Val} {js : List Json}, mapM' g xs = .ok vs → mapM' h vs = .ok js →
      xs.all D = true →
      (∀ a b c, D a = true → g a = .ok b → h b = .ok c → contained (prune a) (prune c) = true) →
      containedList (pruneList xs) (pruneList js) = true := by
  intro xs
  induction xs with
  | nil => intro vs js h1 h2 _ _; cases h1; cases h2; rfl
  | cons a r ih =>
    intro vs js h1 h2 hd hk
    obtain ⟨b, bs, hb, hbs, rfl⟩ := mapM'_cons_ok h1
    obtain ⟨c, cs, hc, hcs, rfl⟩ := mapM'_cons_ok h2
    simp only [List.all_cons, Bool.and_eq_true] at hd
    simp only [pruneList, containedList, Bool.and_eq_true]
    exact ⟨hk a b c hd.1 hb hc, ih hbs hcs hd.2 hk⟩

theorem zip_contained {g : Id → Json → Except E Val} {h : Id → Val → Except E Json} {D : Id → Json → Bool} :
    ∀ {ts : List Id} {xs : List Json} {vs : List Val} {js : List Json},
      zipM g ts xs = .ok vs → zipSe h ts vs = .ok js → zipAll D ts xs = true →
      (∀ t ∈ ts, ∀ a b c, D t a = true → g t a = .ok b → h t b = .ok c →
        contained (prune a) (prune c) = true) →
      containedList (pruneList xs) (pruneList js) = true := by
  intro ts
  induction ts with
  | nil =>
    intro xs vs js h1 h2 _ _
    cases xs with
    | nil => cases h1; cases h2; rfl
    | cons _ _ => cases h1
  | cons t r ih =>
    intro xs vs js h1 h2 hd hk
    obtain ⟨a, as, b, bs, rfl, hb, hbs, rfl⟩ := zipM_cons_ok h1
    obtain ⟨c, cs, hc, hcs, rfl⟩ := zipSe_cons_ok h2
    simp only [zipAll, Bool.and_eq_true] at hd
    simp only [pruneList, containedList, Bool.and_eq_true]
    exact ⟨hk t List.mem_cons_self a b c hd.1 hb hc,
      ih hbs hcs hd.2 (fun t' ht' => hk t' (List.mem_cons_of_mem _ ht'))⟩

theorem mapM'_mem {α β : Type} {g : α → Except E β} :
    ∀ {xs : List α} {ys : List β}, mapM' g xs = .ok ys → ∀ a ∈ xs, ∃ b ∈ ys, g a = .ok b := by
  intro xs
  induction xs with
  | nil => intro ys _ a ha; cases ha
  | cons a0 r ih =>
    intro ys h a ha
    obtain ⟨b, bs, hb, hbs, rfl⟩ := mapM'_cons_ok h
    rcases List.mem_cons.mp ha with rfl | ha
    · exact ⟨b, List.mem_cons_self, hb⟩
    · obtain ⟨b', hb', hg⟩ := ih hbs a ha
      exact ⟨b', List.mem_cons_of_mem _ hb', hg⟩

theorem mapM'_keys {α β : Type} {g : α → Except E β} {ka : α → String} {kb : β → String}
    (hk : ∀ a b, g a = .ok b → kb b = ka a) :
    ∀ {xs : List α} {ys : List β}, mapM' g xs = .ok ys → ys.map kb = xs.map ka := by
  intro xs
  induction xs with
  | nil => intro ys h; cases h; rfl
  | cons a0 r ih =>
    intro ys h
    obtain ⟨b, bs, hb, hbs, rfl⟩ := mapM'_cons_ok h
    simp only [List.map_cons, hk a0 b hb, ih hbs]

theorem mem_insertKv {k : String} {v : Val} {e : String × Val} :
    ∀ {l : List (String × Val)}, e = (k, v) ∨ (e ∈ l ∧ e.1 ≠ k) → e ∈ insertKv k v l := by
  intro l
  induction l with
  | nil =>
    rintro (rfl | ⟨h, _⟩)
    · exact List.mem_cons_self
    · cases h
  | cons a r ih =>
    obtain ⟨k', v'⟩ := a
    intro h
    simp only [insertKv]
    split
    · rcases h with rfl | ⟨h, _⟩
      · exact List.mem_cons_self
      · exact List.mem_cons_of_mem _ h
    · split
      · rename_i heq
        rcases h with rfl | ⟨h, hne⟩
        · exact List.mem_cons_self
        · rcases List.mem_cons.mp h with rfl | h
          · exact absurd heq.symm hne
          · exact List.mem_cons_of_mem _ h
      · rcases h with rfl | ⟨h, hne⟩
        · exact List.mem_cons_of_mem _ (ih (Or.inl rfl))
        · rcases List.mem_cons.mp h with rfl | h
          · exact List.mem_cons_self
          · exact List.mem_cons_of_mem _ (ih (Or.inr ⟨h, hne⟩))

theorem foldl_insertKv_keep : ∀ (l acc : List (String × Val)) (e : String × Val),
    e ∈ acc → (∀ e' ∈ l, e'.1 ≠ e.1) → e ∈ l.foldl (fun acc e => insertKv e.1 e.2 acc) acc := by
  intro l
  induction l with
  | nil => intro acc e h _; exact h
  | cons a r ih =>
    intro acc e h hne
    exact ih _ e (mem_insertKv (Or.inr ⟨h, fun hc => hne a List.mem_cons_self hc.symm⟩))
      (fun e' he' => hne e' (List.mem_cons_of_mem _ he'))

theorem foldl_insertKv_mem_of_nodup : ∀ (l acc : List (String × Val)) (e : String × Val),
    nodupB (l.map (·.1)) = true → e ∈ l → e ∈ l.foldl (fun acc e => insertKv e.1 e.2 acc) acc := by
  intro l
  induction l with
  | nil => intro acc e _ h; cases h
  | cons a r ih =>
    intro acc e hnd h
    obtain ⟨hne, hnd'⟩ := nodupB_cons (show nodupB (a.1 :: r.map (·.1)) = true from hnd)
    rcases List.mem_cons.mp h with rfl | h
    · exact foldl_insertKv_keep r _ e (mem_insertKv (Or.inl rfl))
        (fun e' he' => hne e'.1 (List.mem_map_of_mem he'))
    · exact ih _ e hnd' h

theorem foldl_insertKv_ne_nil : ∀ (l acc : List (String × Val)),
    acc ≠ [] → l.foldl (fun acc e => insertKv e.1 e.2 acc) acc ≠ [] := by
  intro l
  induction l with
  | nil => intro acc h; exact h
  | cons a r ih =>
    intro acc _
    exact ih _ (List.ne_nil_of_mem (mem_insertKv (Or.inl rfl)))

theorem sorted_nodup : ∀ {m : List (String × Val)}, SortedKv m → nodupB (m.map (·.1)) = true := by
  intro m
  induction m with
  | nil => intro _; rfl
  | cons a r ih =>
    intro h
    have hc := List.pairwise_cons.mp h
    refine nodupB_of_forall (fun b hb heq => ?_) (ih hc.2)
    obtain ⟨e, he, rfl⟩ := List.mem_map.mp hb
    exact String.lt_irrefl _ (heq ▸ hc.1 e he)

/-- maps: member-wise through the sorted map. `g` reads a member with `G`, `h` writes one with `H`, both keep the key. -/
theorem map_contained {g : String × Json → Except E (String × Val)} {h : String × Val → Except E (String × Json)}
    {G : Json → Except E Val} {H : Val → Except E Json}
    {kvs : List (String × Json)} {es : List (String × Val)} {es' : List (String × Json)}
    (hm : mapM' g kvs = .ok es)
    (hs : mapM' h (es.foldl (fun acc e => insertKv e.1 e.2 acc) []) = .ok es')
    (hnd : nodupKeys kvs = true)
    (hg : ∀ kv r, g kv = .ok r → r.1 = kv.1 ∧ G kv.2 = .ok r.2)
    (hh : ∀ e r, h e = .ok r → r.1 = e.1 ∧ H e.2 = .ok r.2)
    (hc : ∀ kv ∈ kvs, ∀ b c, G kv.2 = .ok b → H b = .ok c → contained (prune kv.2) (prune c) = true) :
    containedObj (pruneObj kvs) (pruneObj es') = true := by
  have hkeys : es.map (·.1) = kvs.map (·.1) := mapM'_keys (fun a b hab => (hg a b hab).1) hm
  have hnd' : nodupKeys es' = true := by
    unfold nodupKeys
    rw [mapM'_keys (kb := (·.1)) (fun a b hab => (hh a b hab).1) hs]
    exact sorted_nodup (foldl_insertKv_sorted es [] List.Pairwise.nil)
  refine containedObj_prune hnd' fun k v hmem hne => ?_
  obtain ⟨b, hb, hgb⟩ := mapM'_mem hm (k, v) hmem
  obtain ⟨c, hcm, hhc⟩ := mapM'_mem hs b (foldl_insertKv_mem_of_nodup es [] b (hkeys ▸ hnd) hb)
  obtain ⟨hbk, hbv⟩ := hg _ b hgb
  obtain ⟨hck, hcv⟩ := hh b c hhc
  have hk : c.1 = k := hck.trans hbk
  exact ⟨c.2, hk ▸ hcm, hc (k, v) hmem b.2 c.2 hbv hcv⟩

end TypifyModel.Contain
