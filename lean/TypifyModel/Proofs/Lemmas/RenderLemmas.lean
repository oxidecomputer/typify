import TypifyModel.Model.Render
/-! About `Model/Render.lean` alone: the sorted derive set, the derive list of an item. -/
namespace TypifyModel.Render

theorem mem_insertSet {s a : String} {l : List String} : s ∈ insertSet a l ↔ s = a ∨ s ∈ l := by
  induction l with
  | nil => simp [insertSet]
  | cons b r ih =>
    unfold insertSet
    split
    · simp
    · split
      · rename_i h; subst h; simp
      · simp [ih]; constructor
        · rintro (h | h | h) <;> simp [h]
        · rintro (h | h | h) <;> simp [h]

theorem mem_foldl_insertSet {s : String} (l acc : List String) :
    s ∈ l.foldl (fun acc s => insertSet s acc) acc ↔ s ∈ l ∨ s ∈ acc := by
  induction l generalizing acc with
  | nil => simp
  | cons a r ih =>
    simp only [List.foldl_cons, ih, mem_insertSet, List.mem_cons]
    constructor
    · rintro (h | h | h) <;> simp [h]
    · rintro ((h | h) | h) <;> simp [h]

theorem mem_toSet {s : String} {l : List String} : s ∈ toSet l ↔ s ∈ l := by
  unfold toSet; rw [mem_foldl_insertSet]; simp

theorem isStrInner_spec {σ : Space} {i : Id} (h : isStrInner σ i = true) :
    ∃ ed im, σ.get i = some ⟨.string, ed, im⟩ := by
  unfold isStrInner at h
  split at h
  · rename_i ed im hg; exact ⟨ed, im, hg⟩
  · simp at h

theorem isStrInner_of {σ : Space} {i : Id} {ed : List String} {im : List Impl}
    (h : σ.get i = some ⟨.string, ed, im⟩) : isStrInner σ i = true := by
  unfold isStrInner; rw [h]

theorem mem_newtypeDerives {tb : DeriveTables} {s c : Bool} {t : String}
    (h : t ∈ newtypeDerives tb s c) : t ∈ tb.base ∨ (s = true ∧ t ∈ tb.strNewtype) := by
  unfold newtypeDerives at h
  have key : t ∈ tb.base ++ (if s = true then tb.strNewtype else []) →
      t ∈ tb.base ∨ (s = true ∧ t ∈ tb.strNewtype) := by
    intro hm
    rcases List.mem_append.mp hm with hm | hm
    · exact Or.inl hm
    · cases s <;> simp at hm
      exact Or.inr ⟨rfl, hm⟩
  cases c
  · simpa using key h
  · simp only [if_true] at h
    exact key (List.mem_filter.mp h).1

theorem mem_newtypeDerives_base {tb : DeriveTables} {s c : Bool} {t : String}
    (h : t ∈ tb.base) (hne : t ≠ "::serde::Deserialize") : t ∈ newtypeDerives tb s c := by
  unfold newtypeDerives
  cases c
  · simp [h]
  · simp [h, hne]

theorem mem_newtypeDerives_str {tb : DeriveTables} {c : Bool} {t : String}
    (h : t ∈ tb.strNewtype) (hne : t ≠ "::serde::Deserialize") : t ∈ newtypeDerives tb true c := by
  unfold newtypeDerives
  cases c
  · simp [h]
  · simp [h, hne]

theorem deser_not_mem_constrained {tb : DeriveTables} {s : Bool} :
    "::serde::Deserialize" ∉ newtypeDerives tb s true := by
  unfold newtypeDerives
  simp

theorem deser_mem_unconstrained {tb : DeriveTables} {s : Bool} (h : "::serde::Deserialize" ∈ tb.base) :
    "::serde::Deserialize" ∈ newtypeDerives tb s false := by
  unfold newtypeDerives
  simp [h]

/-- the argument of `toSet` in the `derives` of `Render.itemOf`, without the user's (settings, patch) -/
def ownDerives (tb : DeriveTables) (σ : Space) : Details → List String
  | .struct .. => tb.base
  | .enum _ _ vs .. => tb.base ++ (if allSimple vs then tb.simpleEnum else [])
  | .newtype _ inner c _ => newtypeDerives tb (isStrInner σ inner) (isConstrained c)
  | _ => []

theorem mem_derives {tb : DeriveTables} {st : Settings} {σ : Space} {ent : Entry} {it : ItemS} {fns : List String}
    (h : itemOf tb st σ ent = some (it, fns)) {t : String} :
    t ∈ it.derives ↔ t ∈ ownDerives tb σ ent.details ∨ t ∈ st.extraDerives ∨ t ∈ ent.extraDerives := by
  obtain ⟨det, ed, im⟩ := ent
  cases det <;> cases h <;> simp only [mem_toSet, ownDerives, List.mem_append, or_assoc]

theorem fieldS_ty (st : Settings) (σ : Space) (tn : String) (b : Bool) (p : Field) :
    (fieldS st σ tn b p).1.ty = typeIdent st σ fuel p.ty := by
  unfold fieldS; rfl

theorem fieldS_name (st : Settings) (σ : Space) (tn : String) (b : Bool) (p : Field) :
    (fieldS st σ tn b p).1.name = p.name := by
  unfold fieldS; rfl

theorem fieldS_serde (st : Settings) (σ : Space) (tn : String) (b : Bool) (p : Field) :
    (fieldS st σ tn b p).1.serde = (fieldSerde st σ tn p).1 := by
  unfold fieldS; rfl

end TypifyModel.Render
