import TypifyModel.Proofs.Lemmas.ContainBasic
/-! `contained` is reflexive on documents whose objects have distinct keys, and `prune` keeps that
    shape (C03: containment, the `serde_json::Value` arm where the document is handed back as is). -/
namespace TypifyModel.Contain
open TypifyModel TypifyModel.Serde TypifyModel.RoundTrip

mutual
theorem contained_refl : ∀ (j : Json), wfJ j = true → contained j j = true
  | .null, _ => rfl
  | .bool _, _ => by simp [contained, scalarEq]
  | .int _, _ => by simp [contained, scalarEq]
  | .flt _ _, _ => by simp [contained, scalarEq]
  | .str _, _ => by simp [contained, scalarEq]
  | .arr xs, h => by
    simp only [wfJ] at h
    simp only [contained]
    exact containedList_refl xs h
  | .obj kvs, h => by
    simp only [wfJ, Bool.and_eq_true] at h
    simp only [contained]
    exact containedObj_refl kvs kvs (fun kv hkv => lookup_of_mem h.1 hkv) h.2
theorem containedList_refl : ∀ (xs : List Json), wfList xs = true → containedList xs xs = true
  | [], _ => rfl
  | x :: r, h => by
    simp only [wfList, Bool.and_eq_true] at h
    simp only [containedList, Bool.and_eq_true]
    exact ⟨contained_refl x h.1, containedList_refl r h.2⟩
theorem containedObj_refl : ∀ (r whole : List (String × Json)),
    (∀ kv ∈ r, Json.lookup whole kv.1 = some kv.2) → wfObj r = true → containedObj r whole = true
  | [], _, _, _ => rfl
  | (k, v) :: r, whole, hl, h => by
    simp only [wfObj, Bool.and_eq_true] at h
    simp only [containedObj, Bool.and_eq_true]
    refine ⟨?_, containedObj_refl r whole (fun kv hkv => hl kv (List.mem_cons_of_mem _ hkv)) h.2⟩
    have := hl (k, v) (by simp)
    simp only at this
    rw [this]
    exact contained_refl v h.1
end

mutual
theorem wfJ_prune : ∀ (j : Json), wfJ j = true → wfJ (prune j) = true
  | .null, _ => rfl
  | .bool _, _ => rfl
  | .int _, _ => rfl
  | .flt _ _, _ => rfl
  | .str _, _ => rfl
  | .arr xs, h => by
    simp only [wfJ] at h
    simp only [prune, wfJ]
    exact wfList_prune xs h
  | .obj kvs, h => by
    simp only [wfJ, Bool.and_eq_true] at h
    simp only [prune, wfJ, Bool.and_eq_true]
    exact ⟨nodupKeys_pruneObj h.1, wfObj_prune kvs h.2⟩
theorem wfList_prune : ∀ (xs : List Json), wfList xs = true → wfList (pruneList xs) = true
  | [], _ => rfl
  | x :: r, h => by
    simp only [wfList, Bool.and_eq_true] at h
    simp only [pruneList, wfList, Bool.and_eq_true]
    exact ⟨wfJ_prune x h.1, wfList_prune r h.2⟩
theorem wfObj_prune : ∀ (kvs : List (String × Json)), wfObj kvs = true → wfObj (pruneObj kvs) = true
  | [], _ => rfl
  | (k, v) :: r, h => by
    simp only [wfObj, Bool.and_eq_true] at h
    simp only [pruneObj]
    split
    · exact wfObj_prune r h.2
    · simp only [wfObj, Bool.and_eq_true]
      exact ⟨wfJ_prune v h.1, wfObj_prune r h.2⟩
end

/-- a pruned document contains itself -/
theorem contained_prune_self {j : Json} (h : wfJ j = true) : contained (prune j) (prune j) = true :=
  contained_refl _ (wfJ_prune j h)

end TypifyModel.Contain
