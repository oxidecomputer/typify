import TypifyModel.Proofs.Lemmas.ContainStruct
/-! The object shapes of tagged enums in the containment theorem (C03): `{"V": body}` (external),
    `{tag: "V", …members}` (internal), `{tag: "V", content: body}` (adjacent); and `None` at an
    `Option` type is written as `null`. -/
namespace TypifyModel.Contain
open TypifyModel TypifyModel.Serde TypifyModel.RoundTrip

theorem se_none_null (σ : Space) : ∀ (f : Nat) (t t' : Id) (ed : List String) (im : List Impl) (w : Json),
    σ.get t = some ⟨.option t', ed, im⟩ → se σ f t .none = .ok w → w = .null := by
  intro f
  induction f with
  | zero => intro t t' ed im w _ h; cases h
  | succ f ih =>
    intro t t' ed im w hg h
    simp only [se, hg] at h
    split at h
    · rename_i t'' ed' im' hg'
      exact ih t' t'' ed' im' w hg' h
    · cases h; rfl

theorem declaredStruct_obj {σ : Space} {f : Nat} {ps : List Field} {v : Json}
    (h : declaredStruct σ f ps v = true) : ∃ kvs, v = .obj kvs := by
  cases f with
  | zero => cases h
  | succ f =>
    simp only [declaredStruct] at h
    split at h
    · exact ⟨_, rfl⟩
    · cases h

theorem variantAt_of_findIdx {vs : List Variant} {s : String} {i : Nat} {vr : Variant}
    (h : vs.findIdx? (fun v => v.wire == s) = some i) (hv : vs[i]? = some vr) : variantAt vs s = some vr := by
  simp only [variantAt, h, hv]

theorem contained_single {k : String} {a b : Json} (h : contained (prune a) (prune b) = true) :
    contained (prune (.obj [(k, a)])) (prune (.obj [(k, b)])) = true :=
  containedObj_prune (es := [(k, b)]) rfl fun _ _ hm _ => by
    cases List.mem_singleton.mp hm
    exact ⟨b, List.mem_singleton.mpr rfl, h⟩

/-- an object with a tag member: the tag is written first, and the members other than the tag are compared with
    what is written after it (internal tagging: the members of the struct variant) -/
theorem tagged_contained {kvs es : List (String × Json)} {tg s : String}
    (hnd : nodupKeys kvs = true) (hl : Json.lookup kvs tg = some (.str s))
    (hes : containedObj (pruneObj (Json.erase kvs tg)) (pruneObj es) = true) :
    contained (prune (.obj kvs)) (prune (.obj ((tg, .str s) :: es))) = true := by
  have hpr : pruneObj ((tg, Json.str s) :: es) = (tg, Json.str s) :: pruneObj es := rfl
  simp only [prune, contained, hpr]
  refine containedObj_pruneObj.mpr fun k v hmem hne => ?_
  by_cases hk : k = tg
  · subst hk
    have := lookup_of_mem hnd hmem
    rw [hl] at this; cases this
    exact ⟨.str s, by simp [Json.lookup], by simp [prune, contained, scalarEq]⟩
  · obtain ⟨y, hy, hcy⟩ := containedObj_pruneObj.mp hes k v (List.mem_filter.mpr ⟨hmem, by simpa using hk⟩) hne
    refine ⟨y, ?_, hcy⟩
    simp only [Json.lookup, Ne.symm hk, if_false]
    exact hy

/-- adjacent tagging: beside the tag there is only the content member, compared with what is written after the tag
    (nothing for a data-less variant, whose content can only be `null`) -/
theorem adjacent_contained {kvs es : List (String × Json)} {tg ct s : String}
    (hnd : nodupKeys kvs = true) (hkeys : kvs.all (fun kv => kv.1 == tg || kv.1 == ct) = true)
    (hl : Json.lookup kvs tg = some (.str s))
    (hc : ∀ body, Json.lookup kvs ct = some body → emptyJ (prune body) = false →
      ∃ y, Json.lookup (pruneObj es) ct = some y ∧ contained (prune body) y = true) :
    contained (prune (.obj kvs)) (prune (.obj ((tg, .str s) :: es))) = true := by
  refine tagged_contained hnd hl (containedObj_pruneObj.mpr fun k v hm hne => ?_)
  obtain ⟨hmem, hk⟩ := List.mem_filter.mp hm
  have hk' := (List.all_eq_true.mp hkeys) (k, v) hmem
  simp only [Bool.or_eq_true, beq_iff_eq] at hk'
  rcases hk' with rfl | rfl
  · simp at hk
  · exact hc v (lookup_of_mem hnd hmem) hne

end TypifyModel.Contain
