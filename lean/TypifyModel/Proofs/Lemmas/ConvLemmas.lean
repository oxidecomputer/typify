import TypifyModel.Model.Conv
import TypifyModel.Proofs.Lemmas.JsonBasics
/-! Behind C02: when a list combinator of `de` does not reject, and what a `some true` verdict of `valid` says of the parts. -/
namespace TypifyModel.Conv
open TypifyModel TypifyModel.Serde TypifyModel.Validate

/-- "the model does not reject": ok, or a non-verdict (out of fuel / outside the modelled fragment) -/
abbrev NR {α : Type} (r : Except E α) : Prop := r ≠ .error .reject

theorem NR_ok {α : Type} {a : α} : NR (.ok a : Except E α) := nofun

/-- for the error branch that `split` leaves of a propagating `match` in `de` -/
theorem NR_err {α β : Type} {r : Except E α} {e : E} (h : NR r) (he : r = .error e) : NR (.error e : Except E β) :=
  fun hc => h (he.trans (congrArg _ (Except.error.inj hc)))

theorem NR_unsupported {α : Type} : NR (.error .unsupported : Except E α) := nofun

theorem NR_error {α : Type} {e : E} (h : e = .reject → False) : NR (.error e : Except E α) :=
  fun hc => h (Except.error.inj hc)

theorem mapM'_NR {α β : Type} {g : α → Except E β} :
    ∀ {l : List α}, (∀ a ∈ l, NR (g a)) → NR (mapM' g l)
  | [], _ => NR_ok
  | a :: r, h => by
    have hr := mapM'_NR (l := r) fun b hb => h b (List.mem_cons_of_mem a hb)
    simp only [mapM']
    split
    · exact NR_err (h a List.mem_cons_self) ‹_›
    · split
      · exact NR_err hr ‹_›
      · exact NR_ok

theorem zipM_NR {g : Id → Json → Except E Val} :
    ∀ {ts : List Id} {xs : List Json}, ts.length = xs.length →
      (∀ (n : Nat) t j, ts[n]? = some t → xs[n]? = some j → NR (g t j)) → NR (zipM g ts xs)
  | [], [], _, _ => NR_ok
  | t :: ts, j :: js, hl, h => by
    have hr := zipM_NR (ts := ts) (xs := js) (Nat.succ.inj hl) fun n t' j' ht hj => h (n + 1) t' j' ht hj
    simp only [zipM]
    split
    · exact NR_err (h 0 t j rfl rfl) ‹_›
    · split
      · exact NR_err hr ‹_›
      · exact NR_ok

theorem firstOk_NR {α : Type} {g : α → Nat → Except E Val} :
    ∀ {l : List α} {k n : Nat} {a : α}, l[n]? = some a → NR (g a (k + n)) → NR (firstOk g l k)
  | b :: r, k, n, a, h, hn => by
    simp only [firstOk]
    split
    · exact NR_ok
    · cases n with
      | zero => cases h; exact absurd ‹_› hn
      | succ n => exact firstOk_NR (l := r) (k := k + 1) (n := n) h (by rwa [Nat.add_right_comm, Nat.add_assoc])
    · exact NR_error ‹_›

theorem allJ_mem {g : Json → Option Bool} :
    ∀ {l : List Json}, allJ g l = some true → ∀ j ∈ l, g j = some true
  | a :: r, h, j, hj => by
    obtain ⟨h1, h2⟩ := and3_true h
    cases hj with
    | head => exact h1
    | tail _ hj => exact allJ_mem h2 j hj

theorem zipV_spec {g : Schema → Json → Option Bool} :
    ∀ {ss : List Schema} {xs : List Json}, zipV g ss xs = some true →
      ss.length = xs.length ∧ ∀ (n : Nat) s j, ss[n]? = some s → xs[n]? = some j → g s j = some true
  | [], [], _ => ⟨rfl, nofun⟩
  | [], _ :: _, h | _ :: _, [], h => by cases h
  | s :: ss, j :: js, h => by
    obtain ⟨h1, h2⟩ := and3_true h
    obtain ⟨hl, hr⟩ := zipV_spec h2
    refine ⟨congrArg (· + 1) hl, fun n s' j' hs hj => ?_⟩
    cases n with
    | zero => cases hs; cases hj; exact h1
    | succ n => exact hr n s' j' hs hj

theorem zipB_spec {g : Schema → Id → Bool} :
    ∀ {ss : List Schema} {ts : List Id}, zipB g ss ts = true →
      ss.length = ts.length ∧ ∀ (n : Nat) s t, ss[n]? = some s → ts[n]? = some t → g s t = true
  | [], [], _ => ⟨rfl, nofun⟩
  | [], _ :: _, h | _ :: _, [], h => by cases h
  | s :: ss, t :: ts, h => by
    obtain ⟨h1, h2⟩ := Bool.and_eq_true_iff.mp h
    obtain ⟨hl, hr⟩ := zipB_spec h2
    refine ⟨congrArg (· + 1) hl, fun n s' t' hs ht => ?_⟩
    cases n with
    | zero => cases hs; cases ht; exact h1
    | succ n => exact hr n s' t' hs ht

theorem countV_pos {g : Schema → Option Bool} :
    ∀ {l : List Schema} {c : Nat}, countV g l = some c → 0 < c → ∃ (n : Nat) (s : Schema), l[n]? = some s ∧ g s = some true
  | [], c, h, hc => by cases h; exact absurd hc (Nat.lt_irrefl 0)
  | a :: r, c, h, hc => by
    simp only [countV] at h
    split at h
    · rename_i b n hga hr
      cases b with
      | true => exact ⟨0, a, rfl, hga⟩
      | false =>
        cases h
        obtain ⟨n, s, hn, hs⟩ := countV_pos hr hc
        exact ⟨n + 1, s, hn, hs⟩
    · cases h

theorem membersV_mem {g : Schema → Json → Option Bool} {props : List (String × Schema)} {addl : Additional Schema} :
    ∀ {kvs : List (String × Json)}, membersV g props addl kvs = some true → ∀ kv ∈ kvs,
      (match props.find? (fun p => p.1 == kv.1) with
       | some (_, s) => g s kv.2
       | none => match addl with
         | .open_ => some true
         | .closed => some false
         | .schema s => g s kv.2) = some true
  | (k, v) :: r, h, kv, hkv => by
    obtain ⟨h1, h2⟩ := and3_true h
    cases hkv with
    | head => exact h1
    | tail _ hkv => exact membersV_mem h2 kv hkv

theorem membersV_spec {g : Schema → Json → Option Bool} {props : List (String × Schema)} {addl : Additional Schema} :
    ∀ {kvs : List (String × Json)}, membersV g props addl kvs = some true → ∀ kv ∈ kvs,
      (∃ q, props.find? (fun p => p.1 == kv.1) = some q ∧ g q.2 kv.2 = some true) ∨
      (props.find? (fun p => p.1 == kv.1) = none ∧ ¬ (addl matches .closed)) := by
  intro kvs h kv hkv
  have h1 := membersV_mem h kv hkv
  split at h1
  · exact .inl ⟨_, ‹_›, h1⟩
  · exact .inr ⟨‹_›, by cases addl <;> simp at h1 ⊢⟩

theorem membersV_spec_schema {g : Schema → Json → Option Bool} {props : List (String × Schema)} {sa : Schema} :
    ∀ {kvs : List (String × Json)}, membersV g props (.schema sa) kvs = some true → ∀ kv ∈ kvs,
      (∃ q, props.find? (fun p => p.1 == kv.1) = some q ∧ g q.2 kv.2 = some true) ∨
      (props.find? (fun p => p.1 == kv.1) = none ∧ g sa kv.2 = some true) := by
  intro kvs h kv hkv
  have h1 := membersV_mem h kv hkv
  split at h1
  · exact .inl ⟨_, ‹_›, h1⟩
  · exact .inr ⟨‹_›, h1⟩

theorem membersV_additional {g : Schema → Json → Option Bool} {sv : Schema} {kvs : List (String × Json)}
    (h : membersV g [] (.schema sv) kvs = some true) : ∀ kv ∈ kvs, g sv kv.2 = some true :=
  fun kv hkv => membersV_mem h kv hkv

theorem beq_str_left {w : String} {j : Json} (h : (Json.str w == j) = true) : j = .str w := by
  change Json.beq (.str w) j = true at h
  cases j <;> simp [Json.beq] at h
  subst h; rfl

section valid
variable {vx : Validate.Ext} {d : Doc} {m : Nat} {v : Json}

theorem valid_null (h : valid vx d m .null v = some true) : v = .null := by
  cases m with
  | zero => cases h
  | succ m => cases v <;> first | rfl | cases h

theorem valid_string {mn mx : Option Nat} {pat : Option String}
    (h : valid vx d (m + 1) (.string mn mx pat) v = some true) : ∃ w, v = .str w := by
  cases v <;> first | exact ⟨_, rfl⟩ | cases h

theorem valid_enum_str {vs : List Json} {P : String → Bool} (h : valid vx d (m + 1) (.enumVals vs) v = some true)
    (hall : vs.all (fun v => match v with | .str w => P w | _ => false) = true) : ∃ w, v = .str w ∧ P w = true := by
  obtain ⟨e, hem, heq⟩ := List.any_eq_true.mp (Option.some.inj h)
  have he := List.all_eq_true.mp hall e hem
  split at he
  · exact ⟨_, beq_str_left heq, he⟩
  · cases he

/-- `hreg`: both sides are given the same regex semantics -/
theorem strImplied_check {x : Serde.Ext} (hreg : ∀ p s, x.regex p s = vx.regex p s)
    {mn mx : Option Nat} {pat : Option String} {tmx tmn : Option Nat} {tpat : Option String} {w : String}
    (himp : strImplied mn mx pat tmx tmn tpat = true)
    (h : valid vx d (m + 1) (.string mn mx pat) (.str w) = some true) : checkString x tmx tmn tpat w = true := by
  simp only [strImplied, Bool.and_eq_true] at himp
  simp only [valid, Option.some.injEq, Bool.and_eq_true, strLen] at h
  obtain ⟨⟨h1, h2⟩, h3⟩ := himp
  obtain ⟨⟨v1, v2⟩, v3⟩ := h
  simp only [checkString, Bool.and_eq_true, charCount]
  refine ⟨⟨?_, ?_⟩, ?_⟩
  · cases tmx with
    | none => rfl
    | some tm => cases mx with
      | none => cases h1
      | some sm => exact decide_eq_true (Nat.le_trans (of_decide_eq_true v2) (of_decide_eq_true h1))
  · cases tmn with
    | none => rfl
    | some tm => cases mn with
      | none => cases h2
      | some sm => exact decide_eq_true (Nat.le_trans (of_decide_eq_true h2) (of_decide_eq_true v1))
  · cases tpat with
    | none => rfl
    | some tp => cases pat with
      | none => cases h3
      | some sp => cases beq_iff_eq.mp h3; exact (hreg _ w).trans v3

theorem valid_array {items : Schema} {mn mx : Option Nat} {u : Bool}
    (h : valid vx d (m + 1) (.array items mn mx u) v = some true) :
    ∃ xs, v = .arr xs ∧ (∀ n, mn = some n → n ≤ xs.length) ∧ (∀ n, mx = some n → xs.length ≤ n) ∧
      ∀ j ∈ xs, valid vx d m items j = some true := by
  cases v with
  | arr xs =>
    obtain ⟨h1, h2⟩ := and3_true h
    simp only [Option.some.injEq, Bool.and_eq_true] at h1
    exact ⟨xs, rfl, fun n hn => by simpa [hn] using h1.1.1, fun n hn => by simpa [hn] using h1.1.2, allJ_mem h2⟩
  | _ => cases h

theorem valid_tuple {items : List Schema} (h : valid vx d (m + 1) (.tuple items) v = some true) :
    ∃ xs, v = .arr xs ∧ zipV (valid vx d m) items xs = some true := by
  cases v with
  | arr xs => exact ⟨xs, rfl, h⟩
  | _ => cases h

theorem valid_object {props : List (String × Schema)} {req : List String} {addl : Additional Schema}
    (h : valid vx d (m + 1) (.object props req addl) v = some true) :
    ∃ kvs, v = .obj kvs ∧ req.all (fun r => (Json.lookup kvs r).isSome) = true ∧
      membersV (valid vx d m) props addl kvs = some true := by
  cases v with
  | obj kvs =>
    obtain ⟨h1, h2⟩ := and3_true h
    exact ⟨kvs, rfl, Option.some.inj h1, h2⟩
  | _ => cases h

theorem valid_oneOf {ss : List Schema} (h : valid vx d (m + 1) (.oneOf ss) v = some true) :
    ∃ (n : Nat) (s : Schema), ss[n]? = some s ∧ valid vx d m s v = some true := by
  obtain ⟨c, hc, h1⟩ := Option.map_eq_some_iff.mp h
  exact countV_pos hc (by rw [beq_iff_eq.mp h1]; exact Nat.one_pos)

theorem valid_anyOf {ss : List Schema} (h : valid vx d (m + 1) (.anyOf ss) v = some true) :
    ∃ (n : Nat) (s : Schema), ss[n]? = some s ∧ valid vx d m s v = some true := by
  obtain ⟨c, hc, h1⟩ := Option.map_eq_some_iff.mp h
  exact countV_pos hc (of_decide_eq_true h1)

end valid

theorem lookup_erase_self {kvs : List (String × Json)} {k : String} :
    Json.lookup (Json.erase kvs k) k = none := by
  rw [Json.lookup_erase, if_pos rfl]

theorem find_filter_ne {props : List (String × Schema)} {tg key : String} (hne : key ≠ tg) :
    (props.filter (fun p => p.1 != tg)).find? (fun p => p.1 == key) = props.find? (fun p => p.1 == key) := by
  induction props with
  | nil => rfl
  | cons a r ih =>
    by_cases ha : a.1 = tg <;> by_cases hk : a.1 = key <;> simp_all

theorem membersV_erase {g : Schema → Json → Option Bool} {props : List (String × Schema)}
    {addl : Additional Schema} {tg : String} :
    ∀ {kvs : List (String × Json)}, membersV g props addl kvs = some true →
      membersV g (props.filter (fun p => p.1 != tg)) addl (Json.erase kvs tg) = some true
  | [], _ => rfl
  | (k, v) :: r, h => by
    obtain ⟨h1, h2⟩ := and3_true h
    have ih := membersV_erase (tg := tg) h2
    unfold Json.erase at ih ⊢
    by_cases hk : k = tg
    · simpa [List.filter_cons, hk] using ih
    · simp only [List.filter_cons, ne_eq, hk, not_false_eq_true, decide_true, if_true, membersV, find_filter_ne hk]
      rw [ih]; exact congrArg (and3 · _) h1

theorem req_erase {req : List String} {kvs : List (String × Json)} {tg : String}
    (h : req.all (fun r => (Json.lookup kvs r).isSome) = true) :
    (req.filter (· != tg)).all (fun r => (Json.lookup (Json.erase kvs tg) r).isSome) = true := by
  apply List.all_eq_true.mpr
  intro r hr
  obtain ⟨hrm, hne⟩ := List.mem_filter.mp hr
  rw [Json.lookup_erase_ne (by simpa using hne)]
  exact List.all_eq_true.mp h r hrm

theorem nodupB_find_gen {α : Type} (key : α → String) {l : List α} :
    nodupB (l.map key) = true → ∀ a ∈ l, l.find? (fun q => key q == key a) = some a := by
  induction l with
  | nil => nofun
  | cons b r ih =>
    intro h a ha
    simp only [List.map_cons, nodupB, Bool.and_eq_true, Bool.not_eq_true', List.contains_eq_mem, List.mem_map,
      decide_eq_false_iff_not] at h
    cases ha with
    | head => simp
    | tail _ ha =>
      have hne : key b ≠ key a := fun hw => h.1 ⟨a, ha, hw.symm⟩
      simpa [List.find?_cons, hne] using ih h.2 a ha

theorem find_findIdx {α : Type} {p : α → Bool} :
    ∀ {l : List α} {a : α}, l.find? p = some a → ∃ i, l.findIdx? p = some i ∧ l[i]? = some a
  | b :: r, a, h => by
    simp only [List.find?_cons, List.findIdx?_cons] at h ⊢
    split at h
    · exact ⟨0, by simp [*], by simpa using h⟩
    · obtain ⟨i, hi, hg⟩ := find_findIdx h
      exact ⟨i + 1, by simp [*], hg⟩

theorem propsB_mem {g : Schema → Id → Bool} {σ : Space} {fields : List Field} {req : List String} :
    ∀ {props : List (String × Schema)}, propsB g σ fields req props = true → ∀ q ∈ props,
      ∃ p, fields.find? (fun p => p.wire == q.1) = some p ∧
        (if req.contains q.1 then g q.2 p.ty = true
         else (hasDefaultAttr p || optionLikeT σ p.ty) = true ∧
           (g q.2 p.ty = true ∨ ∃ t' ed im, σ.get p.ty = some ⟨.option t', ed, im⟩ ∧
              (∀ t'' ed' im', σ.get t' ≠ some ⟨.option t'', ed', im'⟩) ∧ g q.2 t' = true))
  | (k, s) :: r, h, q, hq => by
    simp only [propsB, Bool.and_eq_true] at h
    cases hq with
    | tail _ hq => exact propsB_mem h.2 q hq
    | head =>
      have h1 := h.1
      split at h1
      · cases h1
      · rename_i p hf
        refine ⟨p, hf, ?_⟩
        split at h1
        · rwa [if_pos ‹_›]
        · rw [if_neg ‹_›]
          simp only [Bool.and_eq_true, Bool.or_eq_true] at h1
          refine ⟨by simpa using h1.1, h1.2.imp id fun h2 => ?_⟩
          split at h2
          · rename_i t' ed im hg
            split at h2
            · cases h2
            · exact ⟨t', ed, im, hg, ‹_›, h2⟩
          · cases h2

theorem propsB_field {g : Schema → Id → Bool} {σ : Space} {fields : List Field} {req : List String}
    {props : List (String × Schema)} (h : propsB g σ fields req props = true) {k : String} {q : String × Schema}
    (hq : props.find? (fun p => p.1 == k) = some q) : ∃ p ∈ fields, p.wire = k := by
  obtain ⟨hqk, hqm⟩ := find_key_eq hq
  obtain ⟨p, hp, _⟩ := propsB_mem h q hqm
  exact ⟨p, List.mem_of_find?_eq_some hp, hqk ▸ (by simpa using List.find?_some hp)⟩

/-- `foldFields` rejects only if a step does; `Inv` is what the steps may assume of the buffer -/
theorem foldFields_NR_inv {named : Field → Except E (String × Val)}
    {flat : Field → List (String × Json) → Except E Val × List (String × Json)}
    (Inv : List (String × Json) → Prop) :
    ∀ (ps : List Field) (c : List (String × Json)), Inv c →
      (∀ p ∈ ps, p.rename ≠ .flatten → NR (named p)) →
      (∀ p ∈ ps, p.rename = .flatten → ∀ c', Inv c' → NR (flat p c').1 ∧ Inv (flat p c').2) →
      NR (foldFields named flat ps c).1 := by
  intro ps
  induction ps with
  | nil => intro c _ _ _; exact NR_ok
  | cons p ps ih =>
    intro c hi hn hf
    have ihr := fun c' hc' => ih c' hc' (fun q hq => hn q (List.mem_cons_of_mem _ hq))
      (fun q hq => hf q (List.mem_cons_of_mem _ hq))
    simp only [foldFields]
    split
    · obtain ⟨h1, h1i⟩ := hf p List.mem_cons_self (beq_iff_eq.mp ‹_›) c hi
      split
      · exact NR_err h1 (congrArg Prod.fst ‹_ = _›)
      · rename_i heq
        rw [heq] at h1i
        split
        · exact NR_err (ihr _ h1i) (congrArg Prod.fst ‹_ = _›)
        · exact NR_ok
    · split
      · exact NR_err (hn p List.mem_cons_self fun h => ‹¬ _› (beq_iff_eq.mpr h)) ‹_›
      · split
        · exact NR_err (ihr c hi) (congrArg Prod.fst ‹_ = _›)
        · exact NR_ok

end TypifyModel.Conv
