import TypifyModel.Model.Integer
import TypifyModel.Proofs.Lemmas.F64
/-! The vocabulary of C10's statements, and `convert_integer` piece by piece. -/
namespace TypifyModel.Integer
open TypifyModel

/-- what an integer JSON value must satisfy to be admitted by the schema's numeric keywords -/
def admits (s : IntSchema) (n : Int) : Prop :=
  (∀ m, s.minimum = some m → m ≤ n) ∧ (∀ m, s.maximum = some m → n ≤ m) ∧
  (∀ e, s.exclusiveMinimum = some e → e < n) ∧ (∀ e, s.exclusiveMaximum = some e → n < e) ∧
  (∀ k, s.multipleOf = some k → k ∣ n)

def Small (m : Int) : Prop := -(2 ^ 52) < m ∧ m < 2 ^ 52

/-- per-row facts relating the table (as extracted from the source) to the true ranges of the
    Rust types it names -/
structure RowOK (r : FormatRow) : Prop where
  min_eq : r.min = r.ty.lo
  lo_nonpos : r.ty.lo ≤ 0
  hi_nonneg : 0 ≤ r.ty.hi
  /-- the f64 image of MAX is exact, or (64-bit types) one above it -/
  max_eq : (r.max = r.ty.hi ∧ r.ty.hi < 2 ^ 52) ∨ (r.max = r.ty.hi + 1 ∧ 2 ^ 63 - 1 ≤ r.ty.hi)
  lo_small : -(2 ^ 52) < r.ty.lo ∨ r.ty.lo = -(2 ^ 63)
  hi_le : r.ty.hi ≤ 2 ^ 64 - 1
  nz_lo : r.nz.lo = 1
  nz_hi : r.ty.hi ≤ r.nz.hi
  nz_isNonZero : r.nz.isNonZero = true
  ty_isNonZero : r.ty.isNonZero = false
  unsigned_of_big : 2 ^ 63 - 1 < r.ty.hi → 0 ≤ r.ty.lo
  hi_of_unsigned_big : 0 ≤ r.ty.lo → 2 ^ 63 - 1 ≤ r.ty.hi → r.ty.hi = 2 ^ 64 - 1

instance (r : FormatRow) : Decidable (RowOK r) :=
  decidable_of_iff (_ ∧ _ ∧ _ ∧ _ ∧ _ ∧ _ ∧ _ ∧ _ ∧ _ ∧ _ ∧ _ ∧ _)
    ⟨fun ⟨a, b, c, d, e, f, g, h, i, j, k, l⟩ => RowOK.mk a b c d e f g h i j k l,
     fun ⟨a, b, c, d, e, f, g, h, i, j, k, l⟩ => ⟨a, b, c, d, e, f, g, h, i, j, k, l⟩⟩

/-- facts about the whole table: every row is OK and the row searched first (the last one) offers
    the widest NonZero type -/
def TableOK (tbl : List FormatRow) : Prop :=
  (∀ r ∈ tbl, RowOK r) ∧ (tbl.reverse.head?.map (·.nz)) = some RTy.nzu64

instance (tbl : List FormatRow) : Decidable (TableOK tbl) := by unfold TableOK; infer_instance

/-- a computed bound is only trusted when it is small enough to be an exact double -/
def SoundMin (mn : Option Int) (n : Int) : Prop := ∀ m, mn = some m → Small m → m ≤ n
def SoundMax (mx : Option Int) (n : Int) : Prop := ∀ m, mx = some m → Small m → n ≤ m

theorem round_of_result_Small {a : Int} (hs : Small (roundF64 a)) : roundF64 a = a :=
  roundF64_eq_of_result_small (by unfold Small at hs; omega)

theorem fadd1_round_of_result_Small {e : Int} (hs : Small (fadd1 (roundF64 e))) : fadd1 (roundF64 e) = e + 1 := by
  unfold fadd1 Small at *
  have h1 := roundF64_eq_of_result_small (x := roundF64 e + 1) (by omega)
  have h2 := roundF64_eq_of_result_small (x := e) (by omega)
  omega

theorem fsub1_round_of_result_Small {e : Int} (hs : Small (fsub1 (roundF64 e))) : fsub1 (roundF64 e) = e - 1 := by
  unfold fsub1 Small at *
  have h1 := roundF64_eq_of_result_small (x := roundF64 e - 1) (by omega)
  have h2 := roundF64_eq_of_result_small (x := e) (by omega)
  omega

theorem computeMin_sound {s : IntSchema} {n : Int} (ha : admits s n) : SoundMin (computeMin s) n := by
  intro m hm hs
  obtain ⟨h1, _, h3, _, _⟩ := ha
  unfold computeMin at hm
  split at hm <;> cases hm
  · rw [fadd1_round_of_result_Small hs]; exact h3 _ ‹_›
  · rw [round_of_result_Small hs]; exact h1 _ ‹_›
  · -- the larger of the two is the small one
    rename_i a e ha' he
    rcases Int.le_total (roundF64 a) (fadd1 (roundF64 e)) with hle | hle
    · rw [Int.max_eq_right hle] at hs ⊢; rw [fadd1_round_of_result_Small hs]; exact h3 e he
    · rw [Int.max_eq_left hle] at hs ⊢; rw [round_of_result_Small hs]; exact h1 a ha'

theorem computeMax_sound {s : IntSchema} {n : Int} (ha : admits s n) : SoundMax (computeMax s) n := by
  intro m hm hs
  obtain ⟨_, h2, _, h4, _⟩ := ha
  unfold computeMax at hm
  split at hm <;> cases hm
  · rw [fsub1_round_of_result_Small hs]; exact Int.le_sub_one_of_lt (h4 _ ‹_›)
  · rw [round_of_result_Small hs]; exact h2 _ ‹_›
  · rename_i a e ha' he
    rcases Int.le_total (roundF64 a) (fsub1 (roundF64 e)) with hle | hle
    · rw [Int.min_eq_left hle] at hs ⊢; rw [round_of_result_Small hs]; exact h2 a ha'
    · rw [Int.min_eq_right hle] at hs ⊢; rw [fsub1_round_of_result_Small hs]; exact Int.le_sub_one_of_lt (h4 e he)

theorem matchRow_some {mn mx : Option Int} {r : FormatRow} {t : RTy}
    (hm : matchRow mn mx r = some t) (hne : mn ≠ some 1) :
    t = r.ty ∧ (∀ m, mn = some m → r.min = m) ∧ (∀ m, mx = some m → r.max = m) ∧
    (mn = none → r.min ≤ i64MinF) ∧ (mx = none → i64MaxF ≤ r.max) := by
  unfold matchRow at hm
  split at hm
  · split at hm
    · simp_all
    · cases hm
  · rw [if_neg fun h => hne (congrArg some h)] at hm
    split at hm
    · simp_all
    · cases hm
  · rw [if_neg fun h => hne (congrArg some h)] at hm
    split at hm
    · simp_all
    · cases hm
  · cases hm

theorem findSome_head_nz {mn mx : Option Int} (h1 : mn = some 1) (a : FormatRow) (l : List FormatRow) :
    (a :: l).findSome? (matchRow mn mx) = some a.nz := by
  subst h1
  cases mx <;> simp [List.findSome?, matchRow]

theorem matchRow_fits {mn mx : Option Int} {r : FormatRow} {t : RTy} {n lb hb : Int}
    (hr : RowOK r) (hm : matchRow mn mx r = some t) (hne : mn ≠ some 1)
    (hmin : SoundMin mn n) (hmax : SoundMax mx n)
    (hlb : lb ≤ n) (hhb : n ≤ hb) (hlb' : -(2 ^ 63) ≤ lb) (hhb' : hb ≤ 2 ^ 64 - 1)
    (hbig : 2 ^ 63 - 1 < hb → ∃ m, mn = some m ∧ 0 ≤ m) :
    t.inRange n := by
  obtain ⟨rfl, emin, emax, nmin, nmax⟩ := matchRow_some hm hne
  unfold i64MinF at nmin
  unfold i64MaxF at nmax
  unfold SoundMin Small at hmin
  unfold SoundMax Small at hmax
  -- a present bound is the row's own; an absent one leaves the row at least the i64 range
  constructor
  · have rmin := hr.min_eq; have rlo0 := hr.lo_nonpos; have rlo := hr.lo_small
    cases mn with
    | none => have := nmin rfl; omega
    | some m => have := hmin m rfl; have := emin m rfl; omega
  · have rmin := hr.min_eq; have rhi0 := hr.hi_nonneg; have rmax := hr.max_eq
    have ru64 := hr.hi_of_unsigned_big
    have hb0 : 2 ^ 63 - 1 < hb → 0 ≤ r.min := fun h => by
      obtain ⟨m, rfl, h0⟩ := hbig h; rw [emin m rfl]; exact h0
    cases mx with
    | none => have := nmax rfl; omega
    | some m => have := hmax m rfl; have := emax m rfl; omega

theorem tail_ok {tbl : List FormatRow} {s : IntSchema} {mn mx : Option Int} {fb t : RTy}
    (h : tail tbl s mn mx fb = .ok t) :
    t = fb ∨ tbl.reverse.findSome? (matchRow mn mx) = some t := by
  unfold tail at h
  split at h
  · cases h
  · split at h <;> cases h
    · rename_i hfind
      unfold maybeType at hfind
      split at hfind
      · cases hfind
      · exact .inr hfind
    · exact .inl rfl

theorem tail_fits {tbl : List FormatRow} {s : IntSchema} {mn mx : Option Int} {fb t : RTy}
    {n lb hb : Int} (htbl : TableOK tbl)
    (h : tail tbl s mn mx fb = .ok t)
    (hmin : SoundMin mn n) (hmax : SoundMax mx n)
    (hlb : lb ≤ n) (hhb : n ≤ hb) (hlb' : -(2 ^ 63) ≤ lb) (hhb' : hb ≤ 2 ^ 64 - 1)
    (hbig : 2 ^ 63 - 1 < hb → ∃ m, mn = some m ∧ 0 ≤ m)
    (hfb : fb.inRange n) : t.inRange n := by
  rcases tail_ok h with rfl | hfind
  · exact hfb
  · by_cases h1 : mn = some 1
    · -- NonZero of the first row searched
      obtain ⟨-, hlast⟩ := htbl
      cases hrev : tbl.reverse with
      | nil => rw [hrev] at hfind; cases hfind
      | cons a l =>
        rw [hrev] at hfind hlast
        rw [findSome_head_nz h1] at hfind
        obtain rfl : a.nz = t := Option.some.inj hfind
        have e : a.nz = .nzu64 := by simpa using hlast
        have := hmin 1 h1 (by unfold Small; omega)
        simp only [e, RTy.inRange, RTy.lo, RTy.hi]
        omega
    · obtain ⟨r, hrmem, hr⟩ := List.exists_of_findSome?_eq_some hfind
      exact matchRow_fits (htbl.1 r (List.mem_reverse.mp hrmem)) hr h1 hmin hmax hlb hhb hlb' hhb'
        hbig

theorem tail_nz {tbl : List FormatRow} (htbl : TableOK tbl) {s : IntSchema} {mn mx : Option Int}
    {fb t : RTy} (h : tail tbl s mn mx fb = .ok t) (hfb : fb.isNonZero = false)
    (hnz : t.isNonZero = true) : mn = some 1 := by
  rcases tail_ok h with rfl | hfind
  · rw [hfb] at hnz; cases hnz
  · by_cases h1 : mn = some 1
    · exact h1
    · obtain ⟨r, hrmem, hr⟩ := List.exists_of_findSome?_eq_some hfind
      rw [(matchRow_some hr h1).1, (htbl.1 r (List.mem_reverse.mp hrmem)).ty_isNonZero] at hnz
      cases hnz

theorem withFormat_ok {tbl : List FormatRow} {s : IntSchema} {row : FormatRow}
    {mn mx : Option Int} {ty : RTy} (h : withFormat tbl s row mn mx = .ok ty) :
    ty = (if mn = some 1 then row.nz else row.ty) ∨
    tail tbl s (some (intersectMin row mn)) (some (intersectMax row mx)) row.ty = .ok ty := by
  unfold withFormat at h
  split at h
  · split at h
    · cases h
    · left; split at h <;> cases h <;> simp [*]
  · exact .inr h

theorem intersectMin_sound {row : FormatRow} {mn : Option Int} {n : Int}
    (hmin : SoundMin mn n) (h : row.min ≤ n) : SoundMin (some (intersectMin row mn)) n := by
  rintro m ⟨⟩ hs
  cases mn with
  | none => exact h
  | some m0 => have := hmin m0 rfl; simp only [intersectMin, Small] at this hs ⊢; omega

theorem intersectMax_sound {row : FormatRow} {mx : Option Int} {n : Int}
    (hmax : SoundMax mx n) (h : n ≤ row.max) : SoundMax (some (intersectMax row mx)) n := by
  rintro m ⟨⟩ hs
  cases mx with
  | none => exact h
  | some m0 => have := hmax m0 rfl; simp only [intersectMax, Small] at this hs ⊢; omega

/-- bounds part of `admits` (no `multipleOf`) -/
def admitsBounds (s : IntSchema) (n : Int) : Prop :=
  (∀ m, s.minimum = some m → m ≤ n) ∧ (∀ m, s.maximum = some m → n ≤ m) ∧
  (∀ e, s.exclusiveMinimum = some e → e < n) ∧ (∀ e, s.exclusiveMaximum = some e → n < e)

/-- every numeric keyword present is exactly representable with room to spare -/
def SmallKw (s : IntSchema) : Prop :=
  (∀ m, s.minimum = some m → Small m) ∧ (∀ m, s.maximum = some m → Small m) ∧
  (∀ e, s.exclusiveMinimum = some e → Small e) ∧ (∀ e, s.exclusiveMaximum = some e → Small e)

theorem round_of_arg_Small {x : Int} (h : Small x) : roundF64 x = x :=
  roundF64_eq_of_arg_small (by unfold Small at h; omega)

theorem round_succ_of_arg_Small {x : Int} (h : Small x) : roundF64 (x + 1) = x + 1 :=
  roundF64_eq_of_arg_small (by unfold Small at h; omega)

theorem round_pred_of_arg_Small {x : Int} (h : Small x) : roundF64 (x - 1) = x - 1 :=
  roundF64_eq_of_arg_small (by unfold Small at h; omega)

theorem computeMin_complete {s : IntSchema} {d : Int} (hk : SmallKw s)
    (h : ∀ m, computeMin s = some m → m ≤ d) :
    (∀ m, s.minimum = some m → m ≤ d) ∧ (∀ e, s.exclusiveMinimum = some e → e < d) := by
  obtain ⟨k1, _, k3, _⟩ := hk
  unfold computeMin fadd1 at h
  split at h <;> rename_i hm he <;>
    simp only [hm, he, Option.some.injEq, forall_eq', reduceCtorEq, false_imp_iff, implies_true,
      true_and, and_true] at h ⊢
  · rw [round_of_arg_Small (k3 _ he), round_succ_of_arg_Small (k3 _ he)] at h; omega
  · rw [round_of_arg_Small (k1 _ hm)] at h; exact h
  · rw [round_of_arg_Small (k1 _ hm), round_of_arg_Small (k3 _ he), round_succ_of_arg_Small (k3 _ he)] at h
    omega

theorem computeMax_complete {s : IntSchema} {d : Int} (hk : SmallKw s)
    (h : ∀ m, computeMax s = some m → d ≤ m) :
    (∀ m, s.maximum = some m → d ≤ m) ∧ (∀ e, s.exclusiveMaximum = some e → d < e) := by
  obtain ⟨_, k2, _, k4⟩ := hk
  unfold computeMax fsub1 at h
  split at h <;> rename_i hm he <;>
    simp only [hm, he, Option.some.injEq, forall_eq', reduceCtorEq, false_imp_iff, implies_true,
      true_and, and_true] at h ⊢
  · rw [round_of_arg_Small (k4 _ he), round_pred_of_arg_Small (k4 _ he)] at h; omega
  · rw [round_of_arg_Small (k2 _ hm)] at h; exact h
  · rw [round_of_arg_Small (k2 _ hm), round_of_arg_Small (k4 _ he), round_pred_of_arg_Small (k4 _ he)] at h
    omega

theorem admitsBounds_of_computed {s : IntSchema} {d : Int} (hk : SmallKw s)
    (h1 : ∀ m, computeMin s = some m → m ≤ d) (h2 : ∀ m, computeMax s = some m → d ≤ m) :
    admitsBounds s d :=
  have a := computeMin_complete hk h1
  have b := computeMax_complete hk h2
  ⟨a.1, b.1, a.2, b.2⟩

end TypifyModel.Integer
