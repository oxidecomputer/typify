import TypifyModel.Model.Names
/-! Helper lemmas about the `Names` model (used by `Proofs/C08.lean`): the character set of heck's
    output, the prefix rule, the keyword suffix, `unique`, and the wire names of rendered variants. -/
namespace TypifyModel.Names

theorem alnum_lt (c : Char) (h : isAlnum c = true) : c.toNat < 128 := by
  simp only [isAlnum, Char.isAlphanum, Char.isAlpha, Char.isUpper, Char.isLower, Char.isDigit,
    Bool.or_eq_true, Bool.and_eq_true, decide_eq_true_eq, ge_iff_le, UInt32.le_iff_toNat_le] at h
  have e1 : 'Z'.val.toNat = 90 := by decide
  have e2 : 'z'.val.toNat = 122 := by decide
  have e3 : '9'.val.toNat = 57 := by decide
  have : c.toNat = c.val.toNat := rfl
  omega

theorem alnum_case (c : Char) (h : isAlnum c = true) :
    isAlnum (toLower c) = true ∧ isAlnum (toUpper c) = true := by
  have sweep : ∀ n : Fin 128, isAlnum (Char.ofNat n.val) = true →
      isAlnum (toLower (Char.ofNat n.val)) = true ∧ isAlnum (toUpper (Char.ofNat n.val)) = true := by
    decide +kernel
  have := sweep ⟨c.toNat, alnum_lt c h⟩
  rw [Char.ofNat_toNat] at this
  exact this h

theorem alnum_xidContinue (c : Char) (h : isAlnum c = true) : isXidContinue c = true := by
  simp only [isXidContinue, Bool.or_eq_true]; left; exact h

theorem xidStart_xidContinue (c : Char) (h : isXidStart c = true) : isXidContinue c = true := by
  simp only [isXidContinue, isXidStart, Char.isAlphanum, Bool.or_eq_true] at *
  left; left; exact h

/-! ### heck: every emitted character is alphanumeric (snake: or the `_` boundary) -/

theorem splitAux_alnum (s : Str) : ∀ cur : Str, (∀ c ∈ cur, isAlnum c = true) →
    ∀ w ∈ splitAux cur s, ∀ c ∈ w, isAlnum c = true := by
  induction s with
  | nil =>
    intro cur h w hw
    simp only [splitAux, List.mem_singleton] at hw
    subst hw; simpa using h
  | cons a rest ih =>
    intro cur h w hw
    unfold splitAux at hw
    split at hw
    · exact ih (a :: cur) (List.forall_mem_cons.mpr ⟨‹_›, h⟩) w hw
    · rcases List.mem_cons.mp hw with rfl | hw
      · simpa using h
      · exact ih [] (by simp) w hw

theorem splitWords_alnum (s : Str) : ∀ w ∈ splitWords s, ∀ c ∈ w, isAlnum c = true :=
  splitAux_alnum s [] (by simp)

/-- heck's loop cuts a non-empty piece into consecutive sub-words: no character is lost or added -/
theorem segs_flatten (w : Str) : ∀ (m : Mode) (cur : Str), w ≠ [] →
    (segs m cur w).flatten = cur.reverse ++ w := by
  induction w with
  | nil => intro _ _ h; exact absurd rfl h
  | cons a rest ih =>
    intro m cur _
    cases rest with
    | nil => simp [segs]
    | cons n rest' =>
      have ih := fun m cur => ih m cur (List.cons_ne_nil n rest')
      simp only [segs]
      split
      · simp [ih]
      · split <;> simp [ih]

theorem heckWords_alnum (s : Str) : ∀ w ∈ heckWords s, ∀ c ∈ w, isAlnum c = true := by
  intro w hw c hc
  simp only [heckWords, List.mem_flatMap] at hw
  obtain ⟨p, hp, hwp⟩ := hw
  have hne : p ≠ [] := by rintro rfl; simp [segs] at hwp
  have hcp : c ∈ (segs .boundary [] p).flatten := List.mem_flatten.mpr ⟨w, hwp, hc⟩
  rw [segs_flatten p _ _ hne] at hcp
  exact splitWords_alnum s p hp c (by simpa using hcp)

theorem lowerWord_alnum (w : Str) (h : ∀ c ∈ w, isAlnum c = true) :
    ∀ c ∈ lowerWord w, isAlnum c = true := by
  intro c hc
  obtain ⟨a, ha, rfl⟩ := List.mem_map.mp hc
  exact (alnum_case a (h a ha)).1

theorem capitalize_alnum (w : Str) (h : ∀ c ∈ w, isAlnum c = true) :
    ∀ c ∈ capitalize w, isAlnum c = true := by
  intro c hc
  cases w with
  | nil => simp [capitalize] at hc
  | cons a r =>
    simp only [capitalize, List.mem_cons, List.mem_map] at hc
    rcases hc with rfl | ⟨b, hb, rfl⟩
    · exact (alnum_case a (h a (by simp))).2
    · exact (alnum_case b (h b (by simp [hb]))).1

theorem mem_joinSnake {c : Char} : ∀ {ws : List Str}, c ∈ joinSnake ws → c = '_' ∨ ∃ w ∈ ws, c ∈ w
  | [], hc => by simp [joinSnake] at hc
  | [w], hc => .inr ⟨w, by simp, hc⟩
  | w :: w2 :: rest, hc => by
    simp only [joinSnake, List.mem_append, List.mem_cons] at hc
    rcases hc with hc | rfl | hc
    · exact .inr ⟨w, by simp, hc⟩
    · exact .inl rfl
    · rcases mem_joinSnake (ws := w2 :: rest) hc with h | ⟨v, hv, hcv⟩
      · exact .inl h
      · exact .inr ⟨v, List.mem_cons_of_mem _ hv, hcv⟩

theorem joinSnake_chars (ws : List Str) (h : ∀ w ∈ ws, ∀ c ∈ w, isAlnum c = true) :
    ∀ c ∈ joinSnake ws, isXidContinue c = true := by
  intro c hc
  rcases mem_joinSnake hc with rfl | ⟨w, hw, hcw⟩
  · decide
  · exact alnum_xidContinue c (h w hw c hcw)

theorem toCase_chars (k : Case) (s : Str) : ∀ c ∈ toCase k s, isXidContinue c = true := by
  cases k
  · intro c hc
    simp only [toCase, toPascal, List.mem_flatten, List.mem_map] at hc
    obtain ⟨_, ⟨v, hv, rfl⟩, hcl⟩ := hc
    exact alnum_xidContinue c (capitalize_alnum v (heckWords_alnum s v hv) c hcl)
  · apply joinSnake_chars
    intro w hw
    obtain ⟨v, hv, rfl⟩ := List.mem_map.mp hw
    exact lowerWord_alnum v (heckWords_alnum s v hv)

theorem sanitizeCore_chars (s : Str) (k : Case) :
    ∀ c ∈ sanitizeCore s k, isXidContinue c = true := by
  unfold sanitizeCore
  split
  · decide +kernel
  · split
    · decide +kernel
    · split
      · decide +kernel
      · exact toCase_chars k _

theorem toCase_x (k : Case) : toCase k ['x'] = ['x'] ∨ toCase k ['x'] = ['X'] := by
  cases k
  · right; decide
  · left; decide

theorem identShape_cons (c : Char) (r : Str) (hc : isXidStart c = true)
    (hr : ∀ d ∈ r, isXidContinue d = true) : identShape (c :: r) = true := by
  simp only [identShape, hc, Bool.true_or, Bool.true_and, List.all_eq_true]
  exact hr

theorem addPrefix_shape (k : Case) (out : Str) (h : ∀ c ∈ out, isXidContinue c = true) :
    identShape (addPrefix k out) = true := by
  have hx : ∀ r : Str, (∀ c ∈ r, isXidContinue c = true) →
      identShape (toCase k ['x'] ++ r) = true := by
    intro r hr
    rcases toCase_x k with e | e <;> rw [e] <;> exact identShape_cons _ r (by decide) hr
  unfold addPrefix
  split
  · simpa using hx [] (by simp)
  · split
    · exact identShape_cons _ _ ‹_› (fun d hd => h d (List.mem_cons_of_mem _ hd))
    · exact hx _ h

/-- `Names.keywords` as characters (`keywords_eq`), for closed evaluations: on `keywords` itself the
    kernel runs `String.toList` (UTF-8 encode and decode) on all 51 literals in each of them -/
def keywordChars : List Str := [
  ['a', 'b', 's', 't', 'r', 'a', 'c', 't'], ['a', 's'], ['a', 's', 'y', 'n', 'c'],
  ['a', 'w', 'a', 'i', 't'], ['b', 'e', 'c', 'o', 'm', 'e'], ['b', 'o', 'x'],
  ['b', 'r', 'e', 'a', 'k'], ['c', 'o', 'n', 's', 't'], ['c', 'o', 'n', 't', 'i', 'n', 'u', 'e'],
  ['c', 'r', 'a', 't', 'e'], ['d', 'o'], ['d', 'y', 'n'], ['e', 'l', 's', 'e'],
  ['e', 'n', 'u', 'm'], ['e', 'x', 't', 'e', 'r', 'n'], ['f', 'a', 'l', 's', 'e'],
  ['f', 'i', 'n', 'a', 'l'], ['f', 'n'], ['f', 'o', 'r'], ['i', 'f'], ['i', 'm', 'p', 'l'],
  ['i', 'n'], ['l', 'e', 't'], ['l', 'o', 'o', 'p'], ['m', 'a', 'c', 'r', 'o'],
  ['m', 'a', 't', 'c', 'h'], ['m', 'o', 'd'], ['m', 'o', 'v', 'e'], ['m', 'u', 't'],
  ['o', 'v', 'e', 'r', 'r', 'i', 'd', 'e'], ['p', 'r', 'i', 'v'], ['p', 'u', 'b'], ['r', 'e', 'f'],
  ['r', 'e', 't', 'u', 'r', 'n'], ['S', 'e', 'l', 'f'], ['s', 'e', 'l', 'f'],
  ['s', 't', 'a', 't', 'i', 'c'], ['s', 't', 'r', 'u', 'c', 't'], ['s', 'u', 'p', 'e', 'r'],
  ['t', 'r', 'a', 'i', 't'], ['t', 'r', 'u', 'e'], ['t', 'r', 'y'], ['t', 'y', 'p', 'e'],
  ['t', 'y', 'p', 'e', 'o', 'f'], ['u', 'n', 's', 'a', 'f', 'e'],
  ['u', 'n', 's', 'i', 'z', 'e', 'd'], ['u', 's', 'e'], ['v', 'i', 'r', 't', 'u', 'a', 'l'],
  ['w', 'h', 'e', 'r', 'e'], ['w', 'h', 'i', 'l', 'e'], ['y', 'i', 'e', 'l', 'd']]

theorem keywords_eq : keywords = keywordChars :=
  show (keywordChars.map String.ofList).map String.toList = keywordChars by
    simp only [List.map_map, Function.comp_def, String.toList_ofList, List.map_id']

theorem isKeyword_eq (s : Str) : isKeyword s = keywordChars.contains s := by
  rw [isKeyword, keywords_eq]

theorem keyword_last : ∀ k ∈ keywords, k.getLast? ≠ some '_' := by
  rw [keywords_eq]; decide +kernel

theorem not_keyword_underscore (out : Str) : isKeyword (out ++ ['_']) = false := by
  cases h : isKeyword (out ++ ['_']) with
  | false => rfl
  | true => exact absurd List.getLast?_concat (keyword_last _ (List.contains_iff_mem.mp h))

theorem identShape_append (out : Str) (h : identShape out = true) :
    identShape (out ++ ['_']) = true := by
  cases out with
  | nil => simp [identShape] at h
  | cons c r =>
    simp only [identShape, Bool.and_eq_true, List.cons_append, List.all_append] at h ⊢
    exact ⟨h.1, h.2, by decide⟩

theorem fixKeyword_ident (out : Str) (h : identShape out = true) :
    isRustIdent (fixKeyword out) = true := by
  unfold fixKeyword
  split
  · assumption
  · unfold isRustIdent
    rw [identShape_append out h, not_keyword_underscore out]
    cases out with
    | nil => simp [identShape] at h
    | cons c r => simp

theorem isRustIdent_sanitize (s : Str) (k : Case) : isRustIdent (sanitize s k) = true :=
  fixKeyword_ident _ (addPrefix_shape k _ (sanitizeCore_chars s k))

theorem sanitize_eq (s : Str) (k : Case) : sanitize s k =
    (let out := addPrefix k (sanitizeCore s k)
     if (identShape out && !keywordChars.contains out && out != ['_']) = true then out
     else out ++ ['_']) := by
  simp only [sanitize, fixKeyword, isRustIdent, isKeyword_eq]

theorem uniqueAux_spec (l : List Str) : ∀ seen : List Str,
    uniqueAux seen l = true ↔ (l.Nodup ∧ ∀ x ∈ l, x ∉ seen) := by
  induction l with
  | nil => intro seen; simp [uniqueAux]
  | cons a rest ih =>
    intro seen
    unfold uniqueAux
    by_cases hm : a ∈ seen
    · simp [hm]
    · simp only [List.contains_iff_mem, hm, if_false, ih, List.nodup_cons, List.mem_cons, not_or]
      grind

theorem unique_iff_nodup (l : List Str) : unique l = true ↔ l.Nodup := by
  unfold unique
  rw [uniqueAux_spec]
  simp

theorem wire_renderVariant (raw ident : Str) : wireName (renderVariant raw ident) = raw := by
  unfold wireName renderVariant
  by_cases h : raw = ident
  · simp [h]
  · simp [h]

theorem wire_recase (s : Str) (k : Case) : wireName (recase s k) = s := by
  unfold wireName recase
  by_cases h : sanitize s k = s
  · simp [h]
  · simp [h]

theorem renderVariants_spec (raws : List Str) : ∀ idents : List Str, idents.length = raws.length →
    (renderVariants raws idents).map wireName = raws ∧
    (renderVariants raws idents).map (·.1) = idents := by
  induction raws with
  | nil => intro idents hl; cases idents <;> simp_all [renderVariants]
  | cons r rest ih =>
    intro idents hl
    cases idents with
    | nil => simp at hl
    | cons i irest =>
      have := ih irest (by simpa using hl)
      simp only [renderVariants] at this
      simp only [renderVariants, List.zipWith_cons_cons, List.map_cons, wire_renderVariant, this]
      simp [renderVariant]

end TypifyModel.Names
