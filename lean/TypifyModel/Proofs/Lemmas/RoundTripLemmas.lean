import TypifyModel.Model.RoundTrip
import TypifyModel.Proofs.Lemmas.WireBase
import TypifyModel.Proofs.Lemmas.SerdeBasics
/-! The list combinators of the Serde model read back, element by element, what they wrote; which types never write
    `null` (C03). -/
namespace TypifyModel.RoundTrip
open TypifyModel TypifyModel.Serde

theorem rt_get {σ : Space} (h : rtB σ = true) {t : Id} {ent : Entry} (hg : σ.get t = some ent) :
    entryOkB σ ent = true :=
  List.all_eq_true.mp h (t, ent) (Space.get_mem hg)

theorem dropLast_snoc_of_getLast? {α : Type} {l : List α} {e : α} (h : l.getLast? = some e) : l.dropLast ++ [e] = l := by
  obtain ⟨ys, rfl⟩ := List.getLast?_eq_some_iff.mp h
  exact congrArg (· ++ [e]) List.dropLast_concat

theorem nodupB_cons {a : String} {r : List String} (h : nodupB (a :: r) = true) :
    (∀ b ∈ r, b ≠ a) ∧ nodupB r = true := by
  simp only [nodupB, Bool.and_eq_true, Bool.not_eq_true'] at h
  refine ⟨fun b hb heq => ?_, h.2⟩
  rw [← heq, List.contains_iff_mem.mpr hb] at h
  cases h.1

theorem findIdx_nodup {vs : List Variant} (hnd : nodupB (vs.map (·.wire)) = true) :
    ∀ {i : Nat} {vr : Variant}, vs[i]? = some vr → vs.findIdx? (fun v => v.wire == vr.wire) = some i := by
  induction vs with
  | nil => intro i vr h; simp at h
  | cons a r ih =>
    intro i vr h
    obtain ⟨hne, hnd'⟩ := nodupB_cons (a := a.wire) hnd
    cases i with
    | zero => cases h; simp [List.findIdx?_cons]
    | succ j =>
      have h' : r[j]? = some vr := h
      have : (a.wire == vr.wire) = false :=
        beq_false_of_ne fun hw => hne vr.wire (List.mem_map_of_mem (List.mem_of_getElem? h')) hw.symm
      simp [List.findIdx?_cons, this, ih hnd' h']

theorem findIdx_get {vs : List Variant} {p : Variant → Bool} {i : Nat}
    (h : vs.findIdx? p = some i) : ∃ vr, vs[i]? = some vr ∧ p vr = true := by
  have := List.findIdx?_eq_some_iff_getElem.mp h
  obtain ⟨hlt, hp, _⟩ := this
  exact ⟨vs[i], List.getElem?_eq_getElem hlt, hp⟩

/-- reading back, element by element, what `h` wrote -/
theorem mapM'_back {β γ : Type} {h : β → Except E γ} {g : γ → Except E β} :
    ∀ {vs : List β} {js : List γ}, mapM' h vs = .ok js → (∀ b ∈ vs, ∀ c, h b = .ok c → g c = .ok b) →
      mapM' g js = .ok vs
  | [], _, h2, _ => by cases h2; rfl
  | b :: bs, _, h2, hk => by
    obtain ⟨c, cs, hc, hcs, rfl⟩ := okCons_inv h2
    simp only [mapM', hk b List.mem_cons_self c hc, mapM'_back hcs fun b' hb' => hk b' (List.mem_cons_of_mem _ hb')]

theorem mapM'_triple {α β γ : Type} {g : α → Except E β} {h : β → Except E γ} {g' : γ → Except E β}
    {xs : List α} {vs : List β} {js : List γ} (h1 : mapM' g xs = .ok vs) (h2 : mapM' h vs = .ok js)
    (hk : ∀ a b c, g a = .ok b → h b = .ok c → g' c = .ok b) : mapM' g' js = .ok vs :=
  mapM'_back h2 fun b hb c hc =>
    let ⟨a, _, ha⟩ := WireEq.mapM'_ok_mem h1 b hb
    hk a b c ha hc

theorem zipM_back {g : Id → Json → Except E Val} {h : Id → Val → Except E Json} :
    ∀ {ts : List Id} {xs : List Json} {vs : List Val} {js : List Json}, zipM g ts xs = .ok vs → zipSe h ts vs = .ok js →
      (∀ t ∈ ts, ∀ a b c, g t a = .ok b → h t b = .ok c → g t c = .ok b) → zipM g ts js = .ok vs
  | [], [], _, _, h1, h2, _ => by cases h1; cases h2; rfl
  | [], _ :: _, _, _, h1, _, _ => by cases h1
  | _ :: _, [], _, _, h1, _, _ => by cases h1
  | t :: ts, a :: as, _, _, h1, h2, hk => by
    obtain ⟨b, bs, hb, hbs, rfl⟩ := WireEq.zipM_ok_cons h1
    rw [zipSe] at h2
    split at h2
    next => cases h2
    next c hc =>
      split at h2
      next => cases h2
      next cs hcs =>
        cases h2
        simp only [zipM, hk t List.mem_cons_self a b c hb hc,
          zipM_back hbs hcs fun t' ht' => hk t' (List.mem_cons_of_mem _ ht')]

theorem zip_triple {g : Id → Json → Except E Val} {h : Id → Val → Except E Json} :
    ∀ {ts : List Id} {xs : List Json} {vs : List Val} {js : List Json}, zipM g ts xs = .ok vs → zipSe h ts vs = .ok js →
      (∀ t a b c, g t a = .ok b → h t b = .ok c → g t c = .ok b) → zipM g ts js = .ok vs :=
  fun h1 h2 hk => zipM_back h1 h2 fun t _ => hk t

theorem se_nonnull (σ : Space) : ∀ (F : Nat) (t : Id), nonNullB σ F t = true →
    ∀ f a j, se σ f t a = .ok j → j ≠ .null := by
  intro F
  induction F with
  | zero => intro t h; cases h
  | succ F ih =>
    intro t h f a j hse
    cases f with
    | zero => cases hse
    | succ f =>
      simp only [nonNullB] at h
      cases hg : σ.get t with
      | none => rw [hg] at h; cases h
      | some ent =>
        obtain ⟨det, ed, im⟩ := ent
        rw [hg] at h
        simp only [se, hg] at hse
        cases det with
        | boolean | integer _ | float _ | string =>
          simp only at hse
          split at hse <;> cases hse
          nofun
        | vec _ | set _ | array _ _ | tuple _ | map _ _ | struct _ _ _ _ =>
          simp only at hse
          split at hse
          · split at hse <;> cases hse
            nofun
          · cases hse
        | box t' | newtype _ t' _ _ => exact ih t' h f a j hse
        | enum n tag vs deny d bes =>
          cases tag with
          | untagged => cases h
          | external | adjacent _ _ | internal _ =>
            -- every successful branch writes a string or an object
            simp only at hse
            repeat' split at hse
            all_goals cases hse
            all_goals nofun
        | _ => cases h

end TypifyModel.RoundTrip
