import TypifyModel.Proofs.Lemmas.WireBase
/-! `de_ty`: everything the model of `Deserialize` (and of `Default::default()`) produces is a well-formed value
    of its type (`tyB`). -/
namespace TypifyModel.WireEq
open TypifyModel TypifyModel.Serde

theorem all_imp {α : Type} {p q : α → Bool} (h : ∀ a, p a = true → q a = true) {l : List α}
    (hl : l.all p = true) : l.all q = true :=
  List.all_eq_true.mpr fun a ha => h a (List.all_eq_true.mp hl a ha)

theorem zipTy_imp {f g : Id → Val → Bool} (h : ∀ t v, f t v = true → g t v = true) :
    ∀ {ts : List Id} {vs : List Val}, zipTy f ts vs = true → zipTy g ts vs = true
  | [], [], _ => rfl
  | t :: ts, v :: vs, hz => by
    simp only [zipTy, Bool.and_eq_true] at hz ⊢
    exact ⟨h _ _ hz.1, zipTy_imp h hz.2⟩

theorem tyOrNone_of {σ : Space} {ty : Id → Val → Bool} {t : Id} {v : Val} (h : ty t v = true) :
    tyOrNone σ ty t v = true :=
  Bool.or_eq_true_iff.mpr (.inl h)

theorem tyOrNone_imp {σ : Space} {f g : Id → Val → Bool} (h : ∀ t v, f t v = true → g t v = true) {t : Id} {v : Val}
    (ht : tyOrNone σ f t v = true) : tyOrNone σ g t v = true :=
  Bool.or_eq_true_iff.mpr ((Bool.or_eq_true_iff.mp ht).imp_left (h t v))

theorem fieldsTy_imp {σ : Space} {f g : Id → Val → Bool} (h : ∀ t v, f t v = true → g t v = true) :
    ∀ {ps : List Field} {fs : List (String × Val)}, fieldsTy σ f ps fs = true → fieldsTy σ g ps fs = true
  | [], [], _ => rfl
  | p :: ps, (_, v) :: fs, hz => by
    simp only [fieldsTy, Bool.and_eq_true] at hz ⊢
    exact ⟨tyOrNone_imp h hz.1, fieldsTy_imp h hz.2⟩

theorem variantTy_imp {σ : Space} {f g : Id → Val → Bool} (h : ∀ t v, f t v = true → g t v = true) {d : VDetails} {p : Val}
    (hv : variantTy σ f d p = true) : variantTy σ g d p = true := by
  cases d with
  | simple => exact hv
  | item t => exact tyOrNone_imp h hv
  | tuple ts => cases p <;> first | exact zipTy_imp h hv | exact hv
  | struct ps => cases p <;> first | exact fieldsTy_imp h hv | exact hv

theorem tyB_mono (σ : Space) : ∀ f t v, tyB σ f t v = true → tyB σ (f + 1) t v = true := by
  intro f
  induction f with
  | zero => intro t v h; cases h
  | succ f ih =>
    intro t v h
    unfold tyB at h ⊢
    cases hget : σ.get t with
    | none => rw [hget] at h; cases h
    | some ent =>
      obtain ⟨det, ed, im⟩ := ent
      simp only [hget] at h ⊢
      cases det <;> simp only at h ⊢
      case newtype | box => exact ih _ _ h
      case option t' =>
        refine Bool.or_eq_true_iff.mpr ((Bool.or_eq_true_iff.mp h).imp_right ?_)
        cases isOption σ t'
        · cases v <;> first | exact ih _ _ | exact id
        · exact ih _ _
      all_goals cases v <;> try exact h
      case vec.seq | set.seq => exact all_imp (ih _) h
      case map.map => exact all_imp (fun (kv : String × Val) => ih _ kv.2) h
      case array.seq =>
        simp only [Bool.and_eq_true] at h ⊢
        exact ⟨h.1, all_imp (ih _) h.2⟩
      case tuple.seq => exact zipTy_imp ih h
      case struct.struct => exact fieldsTy_imp ih h
      case enum.variant variants _ _ _ i p =>
        cases hv : variants[i]? <;> simp only [hv] at h ⊢
        · cases h
        · exact variantTy_imp ih h

theorem tyB_mono_le (σ : Space) {f g : Nat} (hle : f ≤ g) {t : Id} {v : Val} (h : tyB σ f t v = true) :
    tyB σ g t v = true := by
  induction hle with
  | refl => exact h
  | step _ ih => exact tyB_mono σ _ _ _ ih

theorem isOption_true {σ : Space} {t : Id} (h : isOption σ t = true) :
    ∃ u ed im, σ.get t = some ⟨.option u, ed, im⟩ := by
  unfold isOption at h
  split at h
  · exact ⟨_, _, _, by assumption⟩
  · cases h

theorem isOption_false {σ : Space} {t : Id} (h : isOption σ t = false) :
    ∀ u ed im, σ.get t ≠ some ⟨.option u, ed, im⟩ := by
  intro u ed im heq
  simp only [isOption, heq] at h
  cases h

theorem isOption_match {α : Sort u} (σ : Space) (t : Id) (a b : α) :
    (match σ.get t with
     | some ⟨.option _, _, _⟩ => a
     | _ => b) = if isOption σ t then a else b := by
  unfold isOption
  rcases σ.get t with _ | ⟨d, _, _⟩
  · rfl
  · cases d <;> rfl

theorem de_option_eq (x : Ext) {σ : Space} {t t' : Id} {ed : List String} {im : List Impl}
    (hget : σ.get t = some ⟨.option t', ed, im⟩) (f : Nat) (j : Json) :
    de x σ (f + 1) t j =
      (match j with
       | .null => .ok .none
       | _ => if isOption σ t' then de x σ f t' j
              else match de x σ f t' j with
                | .ok v => .ok (.some v)
                | .error e => .error e) := by
  simp only [de, hget]
  cases j <;> first | rfl | exact isOption_match ..

theorem deFlat_option_eq (x : Ext) {σ : Space} {t t' : Id} {ed : List String} {im : List Impl}
    (hget : σ.get t = some ⟨.option t', ed, im⟩) (f : Nat) (c : List (String × Json)) :
    deFlat x σ (f + 1) t c =
      (if isOption σ t' then (.error .unsupported, c)
       else match deFlat x σ f t' c with
         | (.ok v, c') => (.ok (.some v), c')
         | (.error .reject, c') => (.ok .none, c')
         | (.error e, c') => (.error e, c')) := by
  simp only [deFlat, hget]
  exact isOption_match ..

theorem mapM'_all {α β : Type} {g : α → Except E β} {P : β → Bool} (hg : ∀ a b, g a = .ok b → P b = true)
    {l : List α} {bs : List β} (hm : mapM' g l = .ok bs) : bs.all P = true :=
  List.all_eq_true.mpr fun b hb =>
    have ⟨a, _, ha⟩ := mapM'_ok_mem hm b hb
    hg a b ha

theorem mapM'_zipTy {g : Id → Except E Val} {ty : Id → Val → Bool} (hg : ∀ t v, g t = .ok v → ty t v = true) :
    ∀ {ts : List Id} {vs : List Val}, mapM' g ts = .ok vs → zipTy ty ts vs = true := by
  intro ts
  induction ts with
  | nil => intro vs h; cases h; rfl
  | cons t r ih =>
    intro vs h
    obtain ⟨b, bs', hb, hr, rfl⟩ := okCons_inv h
    simp only [zipTy, hg t b hb, ih hr, Bool.and_self]

theorem mapM'_fieldsTy {α : Type} {σ : Space} {ty : Id → Val → Bool} (π : α → Field) {G : α → Except E (String × Val)}
    (hG : ∀ a r, G a = .ok r → tyOrNone σ ty (π a).ty r.2 = true) :
    ∀ {l : List α} {fs : List (String × Val)}, mapM' G l = .ok fs → fieldsTy σ ty (l.map π) fs = true := by
  intro l
  induction l with
  | nil => intro fs h; cases h; rfl
  | cons a r ih =>
    intro fs h
    obtain ⟨b, bs', hb, hr, rfl⟩ := okCons_inv h
    simp only [List.map_cons, fieldsTy, hG a b hb, ih hr, Bool.and_self]

theorem foldFields_fieldsTy {σ : Space} {ty : Id → Val → Bool}
    {named : Field → Except E (String × Val)}
    {flat : Field → List (String × Json) → Except E Val × List (String × Json)}
    (hn : ∀ p r, named p = .ok r → tyOrNone σ ty p.ty r.2 = true)
    (hf : ∀ p c v c', flat p c = (.ok v, c') → tyOrNone σ ty p.ty v = true) :
    ∀ (ps : List Field) (c : List (String × Json)) (fs : List (String × Val)) (c' : List (String × Json)),
      foldFields named flat ps c = (.ok fs, c') → fieldsTy σ ty ps fs = true := by
  intro ps
  induction ps with
  | nil => intro c fs c' h; cases h; rfl
  | cons p ps ih =>
    intro c fs c' h
    simp only [foldFields] at h
    split at h
    · -- flattened member
      split at h
      · cases h
      · split at h <;> cases h
        simp only [fieldsTy, hf p _ _ _ (by assumption), ih _ _ _ (by assumption), Bool.and_self]
    · split at h
      · cases h
      · split at h <;> cases h
        simp only [fieldsTy, hn p _ (by assumption), ih _ _ _ (by assumption), Bool.and_self]

theorem rty_zero_in (ty : RTy) (h : ty.isNonZero = false) : ty.lo ≤ 0 ∧ (0 : Int) ≤ ty.hi := by
  cases ty <;> first | decide | cases h

theorem nonreject_ok {α : Type} {r : Except E α} {v : α}
    (h : (match r with | .error .reject => (.error .unsupported : Except E α) | r => r) = .ok v) : r = .ok v := by
  split at h
  · cases h
  · exact h

def ProdTy (x : Ext) (σ : Space) (f : Nat) : Prop :=
  (∀ t j v, de x σ f t j = .ok v → tyB σ f t v = true) ∧
  (∀ d deny so j p, deVariantBody x σ f d deny so j = .ok p → variantTy σ (tyB σ f) d p = true) ∧
  (∀ ps deny j v, deStruct x σ f ps deny j = .ok v → ∃ fs, v = .struct fs ∧ fieldsTy σ (tyB σ f) ps fs = true) ∧
  (∀ t v, dflt x σ f t = .ok v → tyB σ f t v = true) ∧
  (∀ t c v c', deFlat x σ f t c = (.ok v, c') → tyB σ f t v = true)

theorem de_ty_step (x : Ext) (σ : Space) (f : Nat) (ih : ProdTy x σ f) :
    ∀ t j v, de x σ (f + 1) t j = .ok v → tyB σ (f + 1) t v = true := by
  obtain ⟨ihDe, ihVar, ihStruct, -, -⟩ := ih
  intro t j v h0
  have h := h0
  unfold de at h
  split at h
  · cases h
  rename_i ent hget
  -- the arms of `de`, in order (`split` does not walk the other arms)
  split at h <;> rename_i hd <;> unfold tyB <;> simp only [hget, hd]
  -- unit, boolean
  iterate 2 · split at h <;> cases h <;> rfl
  · -- integer
    rename_i name
    cases hr : rtyOfName name with
    | none => rw [hr] at h; cases h
    | some ty =>
      simp only [hr] at h ⊢
      split at h
      · split at h <;> cases h
        exact decide_eq_true (by assumption)
      · cases h
  -- float, string
  iterate 2 · split at h <;> cases h <;> rfl
  · -- jsonValue
    cases h; rfl
  -- native, reference
  iterate 2 · cases h
  · -- option
    obtain ⟨_, ed, im⟩ := ent
    cases hd
    rw [de_option_eq x hget] at h0
    refine Bool.or_eq_true_iff.mpr ?_
    split at h0
    · cases h0; exact .inl rfl
    · refine .inr ?_
      split at h0
      · rw [if_pos (by assumption)]; exact ihDe _ _ _ h0
      · rw [if_neg (by assumption)]
        split at h0 <;> cases h0
        exact ihDe _ _ _ (by assumption)
  · -- box
    exact ihDe _ _ _ h
  -- vec, set
  iterate 2
    · split at h
      · split at h <;> cases h
        exact mapM'_all (ihDe _) (by assumption)
      · cases h
  · -- array
    split at h
    · split at h
      · split at h <;> cases h
        rename_i hm
        exact Bool.and_eq_true_iff.mpr
          ⟨decide_eq_true ((mapM'_length hm).trans (by assumption)), mapM'_all (ihDe _) hm⟩
      · cases h
    · cases h
  · -- tuple
    split at h
    · split at h <;> cases h
      exact zipM_ok_zipTy ihDe (by assumption)
    · cases h
  · -- map
    split at h
    · split at h <;> cases h
      rename_i hm
      refine List.all_eq_true.mpr fun e he => ?_
      rcases foldl_insertKv_mem _ _ _ he with he | he
      · obtain ⟨kv, _, hkv⟩ := mapM'_ok_mem hm e he
        split at hkv <;> cases hkv <;> exact ihDe _ _ _ (by assumption)
      · cases he
    · cases h
  · -- newtype: the constraint only filters
    rename_i inner c _
    cases hi : de x σ f inner j with
    | error e => rw [hi] at h; cases h
    | ok v' =>
      rw [hi] at h
      have hv : v' = v := by
        cases c <;> simp only at h
        · exact Except.ok.inj h
        all_goals repeat' (split at h)
        all_goals first | exact Except.ok.inj h | cases h
      exact hv ▸ ihDe _ _ _ hi
  · -- struct
    obtain ⟨fs, rfl, hf⟩ := ihStruct _ _ _ _ h
    exact hf
  · -- enum
    rename_i tag variants deny _ _
    cases tag <;> simp only at h
    case untagged =>
      obtain ⟨n, a, hn, ha⟩ := firstOk_ok h
      split at ha <;> cases ha
      simp only [Nat.zero_add, hn]
      exact ihVar _ _ _ _ _ (by assumption)
    all_goals repeat' (split at h)
    all_goals cases h
    all_goals
      first
      | (simp only [*, variantTy]; done)
      | (simp only [*]; exact ihVar _ _ _ _ _ (by assumption))
      | (obtain ⟨fs, rfl, hf⟩ := ihStruct _ _ _ _ (by assumption); simp only [*, variantTy]; done)
      | (have hty := ihDe _ _ _ (by assumption); simp only [*, variantTy, tyOrNone, Bool.true_or]; done)
      | (simp only [*, variantTy, tyOrNone, isNoneV, Bool.and_self, Bool.or_true]; done)

theorem var_ty_step (x : Ext) (σ : Space) (f : Nat) (ih : ProdTy x σ f) :
    ∀ d deny so j p, deVariantBody x σ (f + 1) d deny so j = .ok p → variantTy σ (tyB σ (f + 1)) d p = true := by
  obtain ⟨ihDe, -, ihStruct, -, -⟩ := ih
  intro d deny so j p h
  cases d <;> simp only [deVariantBody] at h
  case simple => split at h <;> cases h; rfl
  case item t => exact tyOrNone_of (tyB_mono σ _ _ _ (ihDe _ _ _ h))
  case tuple ts =>
    split at h
    · split at h <;> cases h
      exact zipTy_imp (tyB_mono σ f) (zipM_ok_zipTy ihDe (by assumption))
    · cases h
  case struct ps =>
    split at h
    · cases h
    · obtain ⟨fs, rfl, hf⟩ := ihStruct _ _ _ _ h
      exact fieldsTy_imp (tyB_mono σ f) hf

theorem missing_ty {σ : Space} {ty : Id → Val → Bool} {p : Field} {r : String × Val}
    (h : (if optionLikeT σ p.ty then .ok (p.name, Val.none) else .error .reject : Except E (String × Val)) = .ok r) :
    tyOrNone σ ty p.ty r.2 = true := by
  split at h <;> cases h
  simp only [tyOrNone, isNoneV, Bool.true_and, Bool.or_eq_true]
  exact .inr (by assumption)

/-- `req`: the outcome for a required member that is missing -/
theorem member_ty {x : Ext} {σ : Space} {f : Nat} (ih : ProdTy x σ f) {p : Field} {ov : Option Json}
    {req : Except E (String × Val)} (hreq : ∀ r, req = .ok r → tyOrNone σ (tyB σ f) p.ty r.2 = true)
    {r : String × Val}
    (h : (match ov with
          | some v => (match de x σ f p.ty v with | .ok a => .ok (p.name, a) | .error e => .error e)
          | none =>
            match p.state with
            | .required => req
            | .optional => (match dflt x σ f p.ty with | .ok a => .ok (p.name, a) | .error e => .error e)
            | .dflt d => (match de x σ f p.ty d with
                | .ok a => .ok (p.name, a)
                | .error .reject => .error .unsupported
                | .error e => .error e) : Except E (String × Val)) = .ok r) :
    tyOrNone σ (tyB σ f) p.ty r.2 = true := by
  obtain ⟨ihDe, -, -, ihDflt, -⟩ := ih
  split at h
  · split at h <;> cases h
    exact tyOrNone_of (ihDe _ _ _ (by assumption))
  · split at h
    · exact hreq _ h
    · split at h <;> cases h
      exact tyOrNone_of (ihDflt _ _ (by assumption))
    · split at h <;> cases h
      exact tyOrNone_of (ihDe _ _ _ (by assumption))

theorem struct_ty_step (x : Ext) (σ : Space) (f : Nat) (ih : ProdTy x σ f) :
    ∀ ps deny j v, deStruct x σ (f + 1) ps deny j = .ok v →
      ∃ fs, v = .struct fs ∧ fieldsTy σ (tyB σ (f + 1)) ps fs = true := by
  have ⟨_, _, _, _, ihFlat⟩ := ih
  intro ps deny j v h
  simp only [deStruct] at h
  split at h
  · -- with flattened members
    split at h
    · split at h
      · cases h
      · split at h <;> cases h
        exact ⟨_, rfl, fieldsTy_imp (tyB_mono σ f) (foldFields_fieldsTy
          (fun p r hG => member_ty ih (fun _ => missing_ty) hG)
          (fun p c w c' hF => tyOrNone_of (ihFlat _ _ _ _ hF)) _ _ _ _ (by assumption))⟩
    · cases h
  · split at h
    · split at h
      · cases h
      · split at h <;> cases h
        rename_i hm
        have := mapM'_fieldsTy id (fun p r hG => member_ty ih (fun _ => missing_ty) hG) hm
        exact ⟨_, rfl, fieldsTy_imp (tyB_mono σ f) (List.map_id ps ▸ this)⟩
    · split at h
      · cases h
      · split at h <;> cases h
        rename_i hm
        have := mapM'_fieldsTy Prod.fst (fun pi r hG => member_ty ih (req := .error .reject) (fun _ => nofun) hG) hm
        rw [List.map_fst_zip (by simp)] at this
        exact ⟨_, rfl, fieldsTy_imp (tyB_mono σ f) this⟩
    · cases h

theorem dflt_ty_step (x : Ext) (σ : Space) (f : Nat) (ih : ProdTy x σ f) :
    ∀ t v, dflt x σ (f + 1) t = .ok v → tyB σ (f + 1) t v = true := by
  have ⟨ihDe, _, _, ihDflt, _⟩ := ih
  intro t v h
  unfold dflt at h
  split at h
  · cases h
  rename_i ent hget
  have written : ∀ {r : Except E Val}, r = .ok v → ∀ {d}, r = de x σ f t d → tyB σ (f + 1) t v = true :=
    fun hr _ hd => tyB_mono σ _ _ _ (ihDe _ _ _ (hd ▸ hr))
  split at h <;> rename_i hd
  -- option, vec, set, map, unit, boolean
  iterate 6 · cases h; unfold tyB; simp only [hget, hd] <;> rfl
  · -- integer
    unfold tyB; simp only [hget, hd]
    split at h
    · split at h <;> cases h
      simp only [*]
      exact decide_eq_true (rty_zero_in _ (Bool.eq_false_iff.mpr (by assumption)))
    · cases h
  -- float, string, jsonValue
  iterate 3 · cases h; unfold tyB; simp only [hget, hd] <;> rfl
  · -- box
    unfold tyB; simp only [hget, hd]; exact ihDflt _ _ h
  · -- tuple
    unfold tyB; simp only [hget, hd]
    split at h <;> cases h
    exact mapM'_zipTy ihDflt (by assumption)
  · -- array
    unfold tyB; simp only [hget, hd]
    split at h <;> cases h
    simp only [List.length_replicate, decide_true, Bool.true_and, List.all_eq_true]
    intro b hb
    exact List.eq_of_mem_replicate hb ▸ ihDflt _ _ (by assumption)
  · -- struct, default written in the schema
    split at h
    · cases h
    · exact written h rfl
  · -- struct, members' defaults
    rename_i props _
    unfold tyB; simp only [hget, hd]
    split at h <;> cases h
    exact List.map_id props ▸
      mapM'_fieldsTy id (fun p r hG => member_ty (ov := none) (req := Except.error .unsupported) ih (fun _ => nofun) hG)
        (by assumption)
  -- enum, newtype
  iterate 2
    · split at h
      · cases h
      · exact written h rfl
  · cases h

theorem flat_ty_step (x : Ext) (σ : Space) (f : Nat) (ih : ProdTy x σ f) :
    ∀ t c v c', deFlat x σ (f + 1) t c = (.ok v, c') → tyB σ (f + 1) t v = true := by
  have ⟨ihDe, _, ihStruct, _, ihFlat⟩ := ih
  intro t c v c' h0
  have h := h0
  unfold deFlat at h
  split at h
  · cases h
  rename_i ent hget
  split at h <;> rename_i hd
  · -- struct
    unfold tyB; simp only [hget, hd]
    split at h <;> obtain ⟨fs, rfl, hfs⟩ := ihStruct _ _ _ _ (Prod.mk.inj h).1 <;> exact hfs
  · -- map
    obtain ⟨_, ed, im⟩ := ent
    cases hd
    rw [deFlat_map_eq x σ hget] at h0
    exact de_ty_step x σ f ih _ _ _ (Prod.mk.inj h0).1
  · -- option
    obtain ⟨_, ed, im⟩ := ent
    cases hd
    rw [deFlat_option_eq x hget] at h0
    unfold tyB; simp only [hget, Bool.or_eq_true]
    split at h0
    · cases h0
    · rw [if_neg (by assumption)]
      split at h0 <;> cases h0
      · exact .inr (ihFlat _ _ _ _ (by assumption))
      · exact .inl rfl
  -- box, unconstrained newtype
  iterate 2 · unfold tyB; simp only [hget, hd]; exact ihFlat _ _ _ _ h
  -- untagged, internally tagged enum
  iterate 2 · exact tyB_mono σ _ _ _ (ihDe _ _ _ (Prod.mk.inj h).1)
  all_goals cases h

theorem prodTy (x : Ext) (σ : Space) : ∀ f, ProdTy x σ f
  | 0 => ⟨nofun, nofun, nofun, nofun, nofun⟩
  | f + 1 =>
    have ih := prodTy x σ f
    ⟨de_ty_step x σ f ih, var_ty_step x σ f ih, struct_ty_step x σ f ih, dflt_ty_step x σ f ih, flat_ty_step x σ f ih⟩

/-- everything `de` produces is a well-formed value of the type -/
theorem de_ty (x : Ext) (σ : Space) {f : Nat} {t : Id} {j : Json} {v : Val} (h : de x σ f t j = .ok v) :
    tyB σ f t v = true := (prodTy x σ f).1 t j v h

/-- so is `Default::default()` -/
theorem dflt_ty (x : Ext) (σ : Space) {f : Nat} {t : Id} {v : Val} (h : dflt x σ f t = .ok v) :
    tyB σ f t v = true := (prodTy x σ f).2.2.2.1 t v h

end TypifyModel.WireEq
