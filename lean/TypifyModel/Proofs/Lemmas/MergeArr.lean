import TypifyModel.Proofs.Lemmas.MergeSpec
/-! C09: arrays and tuples (`merge_so_array`, `merge_items_array`); a list-form array against a tuple is
    read as the tuple of as many copies of its item schema. -/
namespace TypifyModel.Merge
open TypifyModel TypifyModel.Validate

variable {x : Ext} {d : Doc}

theorem geO_omaxN (a b : Option Nat) (n : Nat) : geO (omaxN a b) n = (geO a n && geO b n) := by
  cases a <;> cases b <;> simp [geO, omaxN, Nat.max_le]

theorem leO_ominN (a b : Option Nat) (n : Nat) : leO (ominN a b) n = (leO a n && leO b n) := by
  cases a <;> cases b <;> simp [leO, ominN, Nat.le_min]

theorem omaxN_comm (a b : Option Nat) : omaxN a b = omaxN b a := by
  cases a <;> cases b <;> simp [omaxN, Nat.max_comm]

theorem ominN_comm (a b : Option Nat) : ominN a b = ominN b a := by
  cases a <;> cases b <;> simp [ominN, Nat.min_comm]

theorem geO_getD {mn : Option Nat} {n : Nat} (h : geO mn n = true) : mn.getD 0 ≤ n := by
  cases mn with
  | none => exact Nat.zero_le n
  | some m => exact of_decide_eq_true h

theorem minGtMax_false {mn mx : Option Nat} (h : minGtMax mn mx = true) (n : Nat) : (geO mn n && leO mx n) = false := by
  cases mn <;> cases mx <;> simp [minGtMax, geO, leO] at h ⊢
  omega

theorem bounds_inter (mna mnb mxa mxb : Option Nat) (ua ub : Bool) (n : Nat) (dj : Bool) :
    ((geO (omaxN mna mnb) n) &&
     (leO (ominN mxa mxb) n) && (!(ua || ub) || dj)) =
    (((geO (mna) n) &&
      (leO (mxa) n) && (!ua || dj)) &&
     ((geO (mnb) n) &&
      (leO (mxb) n) && (!ub || dj))) := by
  rw [geO_omaxN, leO_ominN, Bool.not_or, Bool.or_and_distrib_right]
  ac_rfl

theorem minGtMax_disj {mna mnb mxa mxb : Option Nat} (h : minGtMax (omaxN mna mnb) (ominN mxa mxb) = true) (n : Nat) :
    ¬ (((geO (mna) n) &&
        (leO (mxa) n)) = true ∧
       ((geO (mnb) n) &&
        (leO (mxb) n)) = true) := by
  intro ⟨ha, hb⟩
  have := minGtMax_false h n
  rw [geO_omaxN, leO_ominN, and_and_and_comm, ha, hb] at this
  cases this

theorem allJ_inter {m a b : Schema} (hI : Inter x d m a b) : ∀ (xs : List Json) (f2 f3 : Nat) (ja jb : Bool),
    allJ (valid x d f2 a) xs = some ja → allJ (valid x d f3 b) xs = some jb →
    ∃ f1, allJ (valid x d f1 m) xs = some (ja && jb)
  | [], _, _, _, _, h2, h3 => by cases h2; cases h3; exact ⟨0, rfl⟩
  | j :: rest, f2, f3, _, _, h2, h3 => by
    obtain ⟨pa, qa, hpa, hqa, rfl⟩ := and3_some h2
    obtain ⟨pb, qb, hpb, hqb, rfl⟩ := and3_some h3
    obtain ⟨g1, hg1⟩ := hI j f2 f3 pa pb hpa hpb
    obtain ⟨g2, hg2⟩ := allJ_inter hI rest f2 f3 qa qb hqa hqb
    refine ⟨max g1 g2, ?_⟩
    rw [allJ, valid_mono x d (Nat.le_max_left g1 g2) hg1,
      allJ_mono (valid_le x d (Nat.le_max_right g1 g2) m) rest _ hg2, and_and_and_comm]
    rfl

theorem array_true {f : Nat} {it : Schema} {mn mx : Option Nat} {u : Bool} {v : Json}
    (h : valid x d f (.array it mn mx u) v = some true) :
    ∃ f' xs, v = .arr xs ∧ (geO mn xs.length && leO mx xs.length) = true ∧ allJ (valid x d f' it) xs = some true := by
  obtain ⟨f', rfl⟩ := ne_zero_of_valid h
  rw [valid_array'] at h
  cases v with
  | arr xs =>
    obtain ⟨h1, h2⟩ := and3_true h
    exact ⟨f', xs, rfl, (Bool.and_eq_true_iff.mp (Option.some.inj h1)).1, h2⟩
  | _ => cases h

/-- `.array, .array` arm of `mergeTyped` (`merge_so_array`) -/
theorem array_array_spec {rec : Schema → Schema → MR} (hrec : RecOK x d rec)
    (ia : Schema) (mna mxa : Option Nat) (ua : Bool) (ib : Schema) (mnb mxb : Option Nat) (ub : Bool) :
    Spec x d (let mn := omaxN mna mnb
              let mx := ominN mxa mxb
              if minGtMax mn mx then MR.never [] else
              match rec ia ib with
              | .ok m g => .ok (.array m mn mx (ua || ub)) g
              | .never g => .never (g ++ (if decide (1 ≤ mn.getD 0) then [] else [Gap.arrayItems]))
              | .unsup => .unsup)
      (.array ia mna mxa ua) (.array ib mnb mxb ub) := by
  simp only
  split
  · rename_i hgt
    intro v f2 f3 ⟨h2, h3⟩
    obtain ⟨_, xs, rfl, hb, _⟩ := array_true h2
    obtain ⟨_, _, hv, hb', _⟩ := array_true h3
    cases hv
    exact minGtMax_disj hgt xs.length ⟨hb, hb'⟩
  · have hs := hrec ia ib
    generalize rec ia ib = r at hs ⊢
    cases r with
    | unsup => trivial
    | ok m g =>
      refine .of_ok fun hg => ?_
      subst hg
      have hI : Inter x d m ia ib := hs
      intro v f2 f3 ba bb h2 h3
      obtain ⟨f2', rfl⟩ := ne_zero_of_valid h2
      obtain ⟨f3', rfl⟩ := ne_zero_of_valid h3
      rw [valid_array'] at h2 h3
      cases v with
      | arr xs =>
        obtain ⟨p, q, hp, hq, rfl⟩ := and3_some h2
        obtain ⟨p', q', hp', hq', rfl⟩ := and3_some h3
        cases hp; cases hp'
        obtain ⟨g1, hg1⟩ := allJ_inter hI xs f2' f3' q q' hq hq'
        refine ⟨g1 + 1, ?_⟩
        rw [valid_array']
        simp only
        rw [hg1, bounds_inter]
        exact congrArg some (and_and_and_comm ..)
      | _ => cases h2; cases h3; exact ⟨1, rfl⟩
    | never g =>
      refine .of_never fun hg => ?_
      obtain ⟨rfl, hmin⟩ := List.append_eq_nil_iff.mp hg
      have hD : Disj x d ia ib := hs
      -- the merged `minItems` is at least 1, so an instance of both has a first item
      have hmin : 1 ≤ (omaxN mna mnb).getD 0 := by
        revert hmin; split
        · exact fun _ => of_decide_eq_true ‹_›
        · exact fun h => nomatch h
      intro v f2 f3 ⟨h2, h3⟩
      obtain ⟨f2', xs, rfl, hb, ha⟩ := array_true h2
      obtain ⟨f3', _, hv, hb', ha'⟩ := array_true h3
      cases hv
      have hpos : 1 ≤ xs.length := Nat.le_trans hmin <| geO_getD <| by
        rw [geO_omaxN, (Bool.and_eq_true_iff.mp hb).1, (Bool.and_eq_true_iff.mp hb').1]; rfl
      cases xs with
      | nil => exact absurd hpos (Nat.not_succ_le_zero 0)
      | cons j rest => exact hD j f2' f3' ⟨(and3_true ha).1, (and3_true ha').1⟩

theorem tuple_cons_inter {m s t : Schema} {ms ss ts : List Schema} (h : Inter x d m s t)
    (hr : Inter x d (.tuple ms) (.tuple ss) (.tuple ts)) :
    Inter x d (.tuple (m :: ms)) (.tuple (s :: ss)) (.tuple (t :: ts)) := by
  intro v f2 f3 ba bb h2 h3
  obtain ⟨f2', rfl⟩ := ne_zero_of_valid h2
  obtain ⟨f3', rfl⟩ := ne_zero_of_valid h3
  cases v with
  | arr xs =>
    cases xs with
    | cons j js =>
      obtain ⟨pa, qa, hpa, hqa, rfl⟩ := and3_some h2
      obtain ⟨pb, qb, hpb, hqb, rfl⟩ := and3_some h3
      obtain ⟨g1, hg1⟩ := h j f2' f3' pa pb hpa hpb
      obtain ⟨g2, hg2⟩ := hr (.arr js) (f2' + 1) (f3' + 1) qa qb hqa hqb
      obtain ⟨g2', rfl⟩ := ne_zero_of_valid hg2
      refine ⟨max g1 g2' + 1, ?_⟩
      show and3 (valid x d (max g1 g2') m j) (valid x d (max g1 g2' + 1) (.tuple ms) (.arr js)) = _
      rw [valid_mono x d (Nat.le_max_left g1 g2') hg1,
        valid_mono x d (Nat.succ_le_succ (Nat.le_max_right g1 g2')) hg2, and_and_and_comm]
      rfl
    | nil => cases h2; cases h3; exact ⟨1, rfl⟩
  | _ => cases h2; cases h3; exact ⟨1, rfl⟩

theorem tuple_cons_disj {s t : Schema} {ss ts : List Schema} (h : Disj x d s t ∨ Disj x d (.tuple ss) (.tuple ts)) :
    Disj x d (.tuple (s :: ss)) (.tuple (t :: ts)) := by
  intro v f2 f3 ⟨h2, h3⟩
  obtain ⟨f2', rfl⟩ := ne_zero_of_valid h2
  obtain ⟨f3', rfl⟩ := ne_zero_of_valid h3
  cases v with
  | arr xs =>
    cases xs with
    | cons j js =>
      obtain ⟨h2a, h2b⟩ := and3_true h2
      obtain ⟨h3a, h3b⟩ := and3_true h3
      exact h.elim (· j _ _ ⟨h2a, h3a⟩) (· (.arr js) (f2' + 1) (f3' + 1) ⟨h2b, h3b⟩)
    | nil => cases h2
  | _ => cases h2

theorem tuple_zip_spec {rec : Schema → Schema → MR} (hrec : RecOK x d rec) : ∀ (ps : List (Schema × Schema)),
    Spec x d (itemsResult (mergeItems rec ps)) (.tuple (ps.map (·.1))) (.tuple (ps.map (·.2)))
  | [] => Inter_self _
  | (s, t) :: rest => by
    have ih := tuple_zip_spec hrec rest
    have hs := hrec s t
    rw [mergeItems]
    generalize rec s t = r at hs ⊢
    cases r with
    | unsup => trivial
    | never g =>
      exact .of_never fun hg => tuple_cons_disj (.inl (by subst hg; exact hs))
    | ok m g =>
      simp only
      generalize mergeItems rec rest = mi at ih ⊢
      obtain ⟨oms, g', u⟩ := mi
      cases oms with
      | some ms =>
        refine .of_ok fun hg => ?_
        obtain ⟨rfl, rfl⟩ := List.append_eq_nil_iff.mp hg
        exact tuple_cons_inter hs ih
      | none =>
        cases u with
        | true => trivial
        | false =>
          refine .of_never fun hg => ?_
          obtain ⟨rfl, rfl⟩ := List.append_eq_nil_iff.mp hg
          exact tuple_cons_disj (.inr ih)

theorem zipV_len {g : Schema → Json → Option Bool} : ∀ (ss : List Schema) (xs : List Json),
    zipV g ss xs = some true → xs.length = ss.length
  | [], [], _ => rfl
  | [], _ :: _, h => nomatch h
  | _ :: _, [], h => nomatch h
  | _ :: ss, _ :: js, h => congrArg (· + 1) (zipV_len ss js (and3_true h).2)

theorem tuple_true {f : Nat} {ts : List Schema} {v : Json} (h : valid x d f (.tuple ts) v = some true) :
    ∃ xs, v = .arr xs ∧ xs.length = ts.length := by
  obtain ⟨f', rfl⟩ := ne_zero_of_valid h
  cases v with
  | arr xs => exact ⟨xs, rfl, zipV_len ts xs h⟩
  | _ => cases h

/-- `.tuple, .tuple` arm of `mergeTyped` (`merge_items_array`) -/
theorem tuple_tuple_spec {rec : Schema → Schema → MR} (hrec : RecOK x d rec) (ts ts' : List Schema) :
    Spec x d (if ts.length != ts'.length then MR.never [] else itemsResult (mergeItems rec (ts.zip ts')))
      (.tuple ts) (.tuple ts') := by
  split
  · rename_i hne
    intro v f2 f3 ⟨h2, h3⟩
    obtain ⟨xs, rfl, hl⟩ := tuple_true h2
    obtain ⟨_, hv, hl'⟩ := tuple_true h3
    cases hv
    exact bne_iff_ne.mp hne (hl.symm.trans hl')
  · rename_i hne
    have hlen : ts.length = ts'.length := by simpa using hne
    have := tuple_zip_spec hrec (ts.zip ts')
    rwa [List.map_fst_zip (by omega), List.map_snd_zip (by omega)] at this

theorem zipV_replicate {g : Schema → Json → Option Bool} (s : Schema) : ∀ (n : Nat) (xs : List Json) (ja : Bool),
    allJ (g s) xs = some ja → zipV g (List.replicate n s) xs = some (ja && decide (xs.length = n))
  | 0, [], _, h => by cases h; rfl
  | 0, _ :: _, _, _ => by simp [zipV]
  | _ + 1, [], _, _ => by simp [zipV, List.replicate]
  | n + 1, j :: js, _, h => by
    obtain ⟨p, q, hp, hq, rfl⟩ := and3_some h
    rw [List.replicate, zipV, hp, zipV_replicate s n js q hq]
    simp [and3, Bool.and_assoc]

theorem Spec_transfer_on {r : MR} {so t u : Schema}
    (h : ∀ v f2 f ba bb, valid x d f2 so v = some ba → valid x d f u v = some bb →
      ∃ f' bt, valid x d f' t v = some bt ∧ (ba = true → bt = bb))
    (hs : Spec x d r so t) : Spec x d r so u := by
  cases r with
  | unsup => trivial
  | ok m g =>
    refine .of_ok fun hg => ?_
    subst hg
    intro v f2 f3 ba bb h2 h3
    obtain ⟨f', bt, ht, hb⟩ := h v f2 f3 ba bb h2 h3
    obtain ⟨f1, hf1⟩ := hs v f2 f' ba bt h2 ht
    refine ⟨f1, ?_⟩
    cases ba with
    | false => exact hf1
    | true => rw [← hb rfl]; exact hf1
  | never g =>
    refine .of_never fun hg => ?_
    subst hg
    intro v f2 f3 ⟨h2, h3⟩
    obtain ⟨f', bt, ht, hb⟩ := h v f2 f3 true true h2 h3
    exact hs v f2 f' ⟨h2, hb rfl ▸ ht⟩

theorem Spec_transfer {r : MR} {so t u : Schema}
    (h : ∀ v f bb, valid x d f u v = some bb → ∃ f', valid x d f' t v = some bb) (hs : Spec x d r so t) :
    Spec x d r so u :=
  Spec_transfer_on (fun v _ f _ bb _ hu => (h v f bb hu).imp fun _ ht => ⟨bb, ht, fun _ => rfl⟩) hs

theorem minGtMax_pin (mn mx : Option Nat) (n : Nat) :
    minGtMax (omaxN mn (some n)) (ominN mx (some n)) = true ↔ (geO mn n && leO mx n) = false := by
  cases mn <;> cases mx <;> simp [minGtMax, omaxN, ominN, geO, leO] <;> omega

theorem tuple_bounds' {mn mx : Option Nat} {n : Nat}
    (h : ¬ minGtMax (omaxN (some n) mn) (ominN (some n) mx) = true) :
    ((geO (mn) n) &&
     (leO (mx) n)) = true := by
  rwa [omaxN_comm, ominN_comm, minGtMax_pin, Bool.not_eq_false] at h

theorem tuple_bounds_gt' {mn mx : Option Nat} {n : Nat}
    (h : minGtMax (omaxN (some n) mn) (ominN (some n) mx) = true) :
    ((geO (mn) n) &&
     (leO (mx) n)) = false := by
  rwa [omaxN_comm, ominN_comm, minGtMax_pin] at h

theorem array_as_tuple {ia : Schema} {mn mx : Option Nat} {ts : List Schema}
    (hb : (geO mn ts.length && leO mx ts.length) = true) (v : Json) (f2 f : Nat) (ba bb : Bool)
    (h2 : valid x d f2 (.tuple ts) v = some ba) (h3 : valid x d f (.array ia mn mx false) v = some bb) :
    ∃ f' bt, valid x d f' (.tuple (List.replicate ts.length ia)) v = some bt ∧ (ba = true → bt = bb) := by
  obtain ⟨f', rfl⟩ := ne_zero_of_valid h3
  rw [valid_array'] at h3
  cases v with
  | arr xs =>
    obtain ⟨p, q, hp, hq, rfl⟩ := and3_some h3
    cases hp
    refine ⟨f' + 1, _, zipV_replicate ia ts.length xs q hq, fun hba => ?_⟩
    subst hba
    obtain ⟨_, hv, hl⟩ := tuple_true h2
    cases hv
    rw [hl, hb, Bool.and_comm]
    simp
  | _ => exact ⟨1, false, rfl, fun _ => Option.some.inj h3⟩

/-- `.array, .tuple` arm of `mergeTyped`; the `.tuple, .array` arm mirrors it -/
theorem array_tuple_spec {rec : Schema → Schema → MR} (hrec : RecOK x d rec)
    (ia : Schema) (mn mx : Option Nat) (ts : List Schema) :
    Spec x d (if minGtMax (omaxN mn (some ts.length)) (ominN mx (some ts.length)) then MR.never [] else
              itemsResult (mergeItems rec (ts.map (fun t => (t, ia)))))
      (.array ia mn mx false) (.tuple ts) := by
  split
  · rename_i hgt
    rw [minGtMax_pin] at hgt
    intro v f2 f3 ⟨h2, h3⟩
    obtain ⟨_, xs, rfl, hb, _⟩ := array_true h2
    obtain ⟨_, hv, hl⟩ := tuple_true h3
    cases hv
    rw [← hl, hb] at hgt
    cases hgt
  · rename_i hgt
    rw [minGtMax_pin, Bool.not_eq_false] at hgt
    have := tuple_zip_spec hrec (ts.map (fun t => (t, ia)))
    simp only [List.map_map, Function.comp_def, List.map_id', List.map_const'] at this
    exact (Spec_transfer_on (array_as_tuple hgt) this).symm

end TypifyModel.Merge
