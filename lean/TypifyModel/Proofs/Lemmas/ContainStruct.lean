import TypifyModel.Proofs.Lemmas.ContainList
import TypifyModel.Proofs.Lemmas.RoundTripStruct2
import TypifyModel.Proofs.Lemmas.SerdeDe
/-! Structs in the containment theorem (C03): a member that `skip_serializing_if` leaves out was read
    from a document that `prune` drops as well; every other member present in the input object is
    written, and (one fuel level down) contains what was read. -/
namespace TypifyModel.Contain
open TypifyModel TypifyModel.Serde TypifyModel.RoundTrip

variable (x : Ext) (σ : Space)

theorem de_none_null : ∀ (f : Nat) (t : Id) (j : Json) (t' : Id) (ed : List String) (im : List Impl),
    σ.get t = some ⟨.option t', ed, im⟩ → de x σ f t j = .ok .none → j = .null := by
  intro f
  induction f with
  | zero => intro t j t' ed im _ h; cases h
  | succ f ih =>
    intro t j t' ed im hg h
    by_cases hj : j = .null
    · exact hj
    · rw [de_option_of_ne_null hg hj] at h
      split at h
      · rename_i t'' ed' im' hg'
        exact ih t' j t'' ed' im' hg' h
      · split at h <;> cases h

theorem de_vec_nil {f : Nat} {t t' : Id} {ed : List String} {im : List Impl} {j : Json}
    (hg : σ.get t = some ⟨.vec t', ed, im⟩) (h : de x σ f t j = .ok (.seq [])) : j = .arr [] := by
  cases f with
  | zero => cases h
  | succ f =>
    simp only [de, hg] at h
    cases j with
    | arr xs =>
      simp only at h
      split at h
      · rename_i vs hm
        cases h
        cases xs with
        | nil => rfl
        | cons _ _ => obtain ⟨_, _, _, _, hc⟩ := mapM'_cons_ok hm; cases hc
      · cases h
    | _ => cases h

theorem de_map_nil {f : Nat} {t k vt : Id} {ed : List String} {im : List Impl} {j : Json}
    (hg : σ.get t = some ⟨.map k vt, ed, im⟩) (h : de x σ f t j = .ok (.map [])) : j = .obj [] := by
  cases f with
  | zero => cases h
  | succ f =>
    simp only [de, hg] at h
    cases j with
    | obj kvs =>
      simp only at h
      split at h
      · rename_i es hm
        cases es with
        | cons a r =>
          simp only [Except.ok.injEq, Val.map.injEq, List.foldl_cons] at h
          exact absurd h (foldl_insertKv_ne_nil r _ (List.ne_nil_of_mem (mem_insertKv (Or.inl rfl))))
        | nil =>
          cases kvs with
          | nil => rfl
          | cons _ _ => obtain ⟨_, _, _, _, hc⟩ := mapM'_cons_ok hm; cases hc
      · cases h
    | _ => cases h

/-- a member left out by `skip_serializing_if` was read from a document that `prune` drops -/
theorem skipped_empty {f : Nat} {p : Field} {vk : Json} {a : Val}
    (hde : de x σ f p.ty vk = .ok a) (hsk : skipped σ p a = true) : emptyJ (prune vk) = true := by
  obtain ⟨_, hkind⟩ := skipped_cases σ hsk
  rcases hkind with ⟨⟨t', ed, im, hg⟩, rfl⟩ | ⟨⟨t', ed, im, hg⟩, rfl⟩ | ⟨⟨k, v, ed, im, hg⟩, rfl⟩
  · rw [de_none_null x σ f p.ty vk t' ed im hg hde]; rfl
  · rw [de_vec_nil x σ hg hde]; rfl
  · rw [de_map_nil x σ hg hde]; rfl

theorem deStruct_obj_step {f : Nat} {ps : List Field} {deny : Bool} {kvs : List (String × Json)}
    {fs : List (String × Val)} (hfl : hasFlatten ps = false)
    (h : deStruct x σ (f + 1) ps deny (.obj kvs) = .ok (.struct fs)) :
    mapM' (stepE x σ f kvs) ps = .ok fs := by
  rw [deStruct_obj x σ hfl] at h
  split at h
  · cases h
  · split at h
    · rename_i fs' hm
      cases h
      exact hm
    · cases h

/-- a member present in the input object with a value that `prune` keeps is written, and its written
    value contains it -/
theorem fields_contained {f : Nat} {kvs : List (String × Json)} :
    ∀ (ps : List Field) (fs : List (String × Val)) (es : List (String × Json)), hasFlatten ps = false →
      mapM' (stepE x σ f kvs) ps = .ok fs → seFieldsR (se σ f) σ ps fs = .ok es →
      ∀ p ∈ ps, ∀ vk, Json.lookup kvs p.wire = some vk → emptyJ (prune vk) = false →
        (∀ a w, de x σ f p.ty vk = .ok a → se σ f p.ty a = .ok w →
          contained (prune vk) (prune w) = true) →
        ∃ w, (p.wire, w) ∈ es ∧ contained (prune vk) (prune w) = true := by
  intro ps
  induction ps with
  | nil => intro fs es _ _ _ p hp; cases hp
  | cons q r ih =>
    intro fs es hfl hm hse p hp vk hl hne hc
    obtain ⟨hpf, hrf⟩ := hasFlatten_cons hfl
    obtain ⟨⟨n, av⟩, bs, hq, hr, rfl⟩ := mapM'_cons_ok hm
    simp only [seFieldsR, hpf, Bool.false_eq_true, if_false] at hse
    split at hse
    · cases hse
    · rename_i rest hrest
      rcases List.mem_cons.mp hp with rfl | hp
      · -- the member itself: it was read from `vk`, which `prune` keeps, so it is not skipped
        have hde : de x σ f p.ty vk = .ok av := by
          simp only [stepE, hl] at hq
          split at hq
          · cases hq; assumption
          · cases hq
        have hsk : skipped σ p av = false := by
          cases hs : skipped σ p av with
          | false => rfl
          | true => rw [skipped_empty x σ hde hs] at hne; cases hne
        simp only [hsk, Bool.false_eq_true, if_false] at hse
        split at hse
        · cases hse
        · rename_i j hj
          cases hse
          exact ⟨j, List.mem_cons_self, hc av j hde hj⟩
      · obtain ⟨w, hw, hcw⟩ := ih bs rest hrf hr hrest p hp vk hl hne hc
        refine ⟨w, ?_, hcw⟩
        split at hse
        · cases hse; exact hw
        · split at hse
          · cases hse
          · cases hse; exact List.mem_cons_of_mem _ hw

theorem seFieldsR_nodup {rec : Id → Val → Except E Json} :
    ∀ {ps : List Field} {fs : List (String × Val)} {es : List (String × Json)}, hasFlatten ps = false →
      seFieldsR rec σ ps fs = .ok es → nodupB (ps.map (·.wire)) = true → nodupKeys es = true := by
  intro ps
  induction ps with
  | nil =>
    intro fs es _ h _
    cases fs with
    | nil => cases h; rfl
    | cons _ _ => cases h
  | cons p r ih =>
    intro fs es hfl h hnd
    obtain ⟨hpf, hrf⟩ := hasFlatten_cons hfl
    obtain ⟨hne, hnd'⟩ := nodupB_cons (show nodupB (p.wire :: r.map (·.wire)) = true from hnd)
    cases fs with
    | nil => cases h
    | cons a as =>
      obtain ⟨n, v⟩ := a
      simp only [seFieldsR, hpf, Bool.false_eq_true, if_false] at h
      split at h
      · cases h
      · rename_i rest hrest
        have hr := ih hrf hrest hnd'
        split at h
        · cases h; exact hr
        · split at h
          · cases h
          · cases h
            refine nodupB_of_forall (fun b hb => ?_) hr
            obtain ⟨kv, hkv, rfl⟩ := List.mem_map.mp hb
            obtain ⟨q, hq, hw⟩ := seFieldsR_keys σ hrf hrest kv hkv
            exact hw ▸ hne q.wire (List.mem_map_of_mem hq)

/-- **structs**: every member of the pruned input object is contained in the member of the same name
    of the pruned output object -/
theorem struct_contained {f : Nat} {ps : List Field} {deny : Bool} {kvs : List (String × Json)}
    {fs : List (String × Val)} {es : List (String × Json)}
    (hih : ∀ p ∈ ps, ∀ vk a w, declared σ f p.ty vk = true → de x σ f p.ty vk = .ok a →
      se σ f p.ty a = .ok w → contained (prune vk) (prune w) = true)
    (hok : fieldsOkB σ ps = true)
    (hd : declaredStruct σ (f + 1) ps (.obj kvs) = true)
    (h1 : deStruct x σ (f + 1) ps deny (.obj kvs) = .ok (.struct fs))
    (h2 : seStruct σ (f + 1) ps fs = .ok es) :
    containedObj (pruneObj kvs) (pruneObj es) = true := by
  obtain ⟨hfl, hnd, _, _⟩ := fieldsOk_unpack σ hok
  simp only [declaredStruct, hfl, Bool.false_eq_true, if_false, Bool.and_eq_true] at hd
  have hm := deStruct_obj_step x σ hfl h1
  simp only [seStruct] at h2
  refine containedObj_prune (seFieldsR_nodup σ hfl h2 hnd) fun k vk hmem hne => ?_
  -- the key is declared: it is the wire name of a member, at whose type the value is declared
  have hdecl := (List.all_eq_true.mp hd.2) (k, vk) hmem
  simp only at hdecl
  split at hdecl
  · rename_i p hf
    have hw : p.wire = k := by simpa using List.find?_some hf
    subst hw
    have hp := List.mem_of_find?_eq_some hf
    exact fields_contained x σ ps fs es hfl hm h2 p hp vk (lookup_of_mem hd.1 hmem) hne
      (fun a w => hih p hp vk a w hdecl)
  · cases hdecl

end TypifyModel.Contain
