import TypifyModel.Proofs.Lemmas.NamesLemmas
/-! Names that are already snake-case identifiers are fixed points of `sanitize · .snake`
    (heck's `transform` finds exactly the `_`-separated words and no case boundary). -/
namespace TypifyModel.Names

/-- one word of a snake-case name: non-empty, letters and digits, no upper-case letter -/
def SnakeWord (w : Str) : Prop := w ≠ [] ∧ ∀ c ∈ w, isAlnum c = true ∧ isUpper c = false

theorem toLower_fixed (c : Char) (h : isUpper c = false) : toLower c = c := by
  unfold toLower Char.toLower
  unfold isUpper Char.isUpper at h
  simp only [decide_eq_false_iff_not] at h
  split
  · rename_i h2; exact absurd h2 h
  · rfl

theorem lowerWord_fixed (w : Str) (h : ∀ c ∈ w, isUpper c = false) : lowerWord w = w :=
  (List.map_congr_left fun c hc => toLower_fixed c (h c hc)).trans (List.map_id' w)

theorem splitAux_append_alnum (w : Str) : ∀ (cur t : Str), (∀ c ∈ w, isAlnum c = true) →
    splitAux cur (w ++ t) = splitAux (w.reverse ++ cur) t := by
  induction w with
  | nil => intro cur t _; simp
  | cons a r ih =>
    intro cur t h
    have ha : isAlnum a = true := h a (by simp)
    simp only [List.cons_append, splitAux, ha, if_true]
    rw [ih (a :: cur) t (fun c hc => h c (by simp [hc]))]
    simp

theorem splitWords_joinSnake : ∀ ws : List Str, ws ≠ [] →
    (∀ w ∈ ws, ∀ c ∈ w, isAlnum c = true) → splitWords (joinSnake ws) = ws
  | [], hne, _ => absurd rfl hne
  | [w], _, h => by
    have := splitAux_append_alnum w [] [] (h w (by simp))
    simpa [splitWords, joinSnake, splitAux] using this
  | w :: w2 :: rest, _, h => by
    have ih := splitWords_joinSnake (w2 :: rest) (by simp) fun w' hw' =>
      h w' (List.mem_cons_of_mem _ hw')
    have hu : isAlnum '_' = false := by decide
    simp only [splitWords, joinSnake] at ih ⊢
    rw [splitAux_append_alnum w [] _ (h w (by simp))]
    simp [splitAux, hu, ih]

theorem segs_noUpper (w : Str) : ∀ (m : Mode) (cur : Str), w ≠ [] →
    (∀ c ∈ w, isUpper c = false) → segs m cur w = [cur.reverse ++ w] := by
  induction w with
  | nil => intro m cur hne; exact absurd rfl hne
  | cons a rest ih =>
    intro m cur _ h
    cases rest with
    | nil => simp [segs]
    | cons n rest' =>
      have ha : isUpper a = false := h a (by simp)
      have hn : isUpper n = false := h n (by simp)
      simp only [segs, ha, hn, Bool.false_eq_true, and_false, false_and, if_false]
      rw [ih _ (a :: cur) (by simp) (fun c hc => h c (List.mem_cons_of_mem _ hc))]
      simp

theorem heckWords_joinSnake (ws : List Str) (hne : ws ≠ []) (h : ∀ w ∈ ws, SnakeWord w) :
    heckWords (joinSnake ws) = ws := by
  unfold heckWords
  rw [splitWords_joinSnake ws hne (fun w hw c hc => ((h w hw).2 c hc).1)]
  clear hne
  induction ws with
  | nil => rfl
  | cons w rest ih =>
    have hw := h w (by simp)
    rw [List.flatMap_cons, segs_noUpper w .boundary [] hw.1 (fun c hc => (hw.2 c hc).2),
      ih (fun w' hw' => h w' (List.mem_cons_of_mem _ hw'))]
    rfl

theorem toSnake_joinSnake (ws : List Str) (hne : ws ≠ []) (h : ∀ w ∈ ws, SnakeWord w) :
    toSnake (joinSnake ws) = joinSnake ws := by
  unfold toSnake
  rw [heckWords_joinSnake ws hne h]
  exact congrArg joinSnake <| (List.map_congr_left fun w hw =>
    lowerWord_fixed w fun c hc => ((h w hw).2 c hc).2).trans (List.map_id' ws)

theorem replChars_fixed (s : Str) (h : ∀ c ∈ s, isXidContinue c = true) : replChars s = s := by
  have hf : s.filter (· != '\'') = s := by
    rw [List.filter_eq_self]
    intro c hc
    have := h c hc
    simp only [bne_iff_ne, ne_eq]
    rintro rfl; revert this; decide
  rw [replChars, hf]
  exact (List.map_congr_left fun c hc => if_pos (h c hc)).trans (List.map_id' s)

/-- on a string of identifier characters that is no keyword `sanitizeCore` is the case conversion:
    `async` is a keyword, `+` and `-` are no identifier characters -/
theorem sanitizeCore_ident (s : Str) (k : Case) (hch : ∀ c ∈ s, isXidContinue c = true)
    (hkw : isKeyword s = false) : sanitizeCore s k = toCase k s := by
  have h1 : s ≠ "async".toList := by
    rintro rfl; revert hkw; rw [isKeyword_eq]; decide +kernel
  have h2 : s ≠ "+1".toList := by rintro rfl; exact absurd (hch '+' (by decide)) (by decide)
  have h3 : s ≠ "-1".toList := by rintro rfl; exact absurd (hch '-' (by decide)) (by decide)
  rw [sanitizeCore, if_neg h1, if_neg h2, if_neg h3, replChars_fixed s hch]

theorem sanitize_joinSnake (ws : List Str) (hne : ws ≠ []) (h : ∀ w ∈ ws, SnakeWord w)
    (hid : isRustIdent (joinSnake ws) = true) : sanitize (joinSnake ws) .snake = joinSnake ws := by
  have hch := joinSnake_chars ws fun w hw c hc => ((h w hw).2 c hc).1
  obtain ⟨⟨hshape, hkw⟩, -⟩ :
      (identShape (joinSnake ws) = true ∧ isKeyword (joinSnake ws) = false) ∧ _ := by
    simpa only [isRustIdent, Bool.and_eq_true, Bool.not_eq_true'] using hid
  have hcore : sanitizeCore (joinSnake ws) .snake = joinSnake ws := by
    rw [sanitizeCore_ident _ _ hch hkw]; exact toSnake_joinSnake ws hne h
  -- the first character belongs to the first word: alphanumeric, so not `_`, so XID_Start
  have hpre : addPrefix .snake (joinSnake ws) = joinSnake ws := by
    obtain ⟨w, rest, rfl⟩ := List.exists_cons_of_ne_nil hne
    have hw := h w (by simp)
    obtain ⟨a, ar, rfl⟩ := List.exists_cons_of_ne_nil hw.1
    obtain ⟨t, hj⟩ : ∃ t, joinSnake ((a :: ar) :: rest) = a :: t := by
      cases rest <;> exact ⟨_, rfl⟩
    have hs : isXidStart a = true := by
      have haa := (hw.2 a (by simp)).1
      rw [hj] at hshape
      simp only [identShape, Bool.and_eq_true, Bool.or_eq_true, beq_iff_eq] at hshape
      rcases hshape.1 with hs | rfl
      · exact hs
      · revert haa; decide
    rw [hj, addPrefix, if_pos hs]
  rw [sanitize, hcore, hpre, fixKeyword, if_pos hid]

end TypifyModel.Names
