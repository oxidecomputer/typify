import TypifyModel.Proofs.Lemmas.CyclesVisit
/-! C07, the invariant of the traversal. The graph: cutting only redirects a by-value child `c` to an
    entry `Box(c)`, and only where `c` leads back to the entry that holds it (`Frame`, `CutOnCycle`).
    The order: the finishing position decreases along every surviving by-value edge, and the finished
    nodes are closed under the edges of the input (`Inv.order`, `Closed`). -/
namespace TypifyModel.Cycles

/-- `r` is `g` where some by-value child ids `c` were replaced by the id of an entry `Box(c)`;
    kinds, arities, order, heap ids and all other ids are kept (`Node.mapChildren`); the only new
    entries are `Box` entries at fresh ids -/
structure OnlyBox (g r : G) : Prop where
  next : g.next ≤ r.next
  old : ∀ i n, g.get i = some n → ∃ f : Nat → Nat, r.get i = some (n.mapChildren f) ∧
    ∀ c ∈ n.childIds, f c = c ∨ r.get (f c) = some (.box c)
  new : ∀ i, g.get i = none → r.get i = none ∨ (g.next ≤ i ∧ ∃ c, r.get i = some (.box c))

/-- every redirected member `c` of entry `i` is `i` itself or has a by-value path back to `i` in `g0` -/
def CutOnCycle (g0 g : G) : Prop :=
  ∀ i n, g0.get i = some n → ∃ f : Nat → Nat, g.get i = some (n.mapChildren f) ∧
    ∀ c ∈ n.childIds, f c = c ∨ (g.get (f c) = some (.box c) ∧ (c = i ∨ Path g0 c i))

theorem CutOnCycle.init {g0 : G} : CutOnCycle g0 g0 := fun _ n h =>
  ⟨id, h.trans (congrArg some (Node.mapChildren_id id n fun _ _ => rfl).symm), fun _ _ => .inl rfl⟩

theorem CutOnCycle.onlyBox_old {g0 g : G} (h : CutOnCycle g0 g) (i : Nat) (n : Node)
    (hi : g0.get i = some n) : ∃ f : Nat → Nat, g.get i = some (n.mapChildren f) ∧
      ∀ c ∈ n.childIds, f c = c ∨ g.get (f c) = some (.box c) :=
  let ⟨f, h1, h2⟩ := h i n hi
  ⟨f, h1, fun c hc => (h2 c hc).imp id And.left⟩

/-- invariant relating the current graph to the graph `g0` cutting started from -/
structure Frame (g0 g : G) (visited : List Nat) : Prop where
  keys : KeysBelow g
  unvisited : ∀ i n, g0.get i = some n → i ∉ visited → g.get i = some n
  onlyBox : OnlyBox g0 g

theorem Frame.init {g0 : G} (hk : KeysBelow g0) : Frame g0 g0 [] where
  keys := hk
  unvisited _ _ h _ := h
  onlyBox := { next := Nat.le_refl _, old := CutOnCycle.init.onlyBox_old, new := fun _ => .inl }

/-- `frame`, the active nodes are visited, and every finished node has all its by-value children of
    the INPUT graph visited: `visited`/`active` never make the traversal skip an unvisited child -/
structure Closed (g0 : G) (act : List Nat) (s : St) : Prop where
  frame : Frame g0 s.g s.visited
  actVis : ∀ a ∈ act, a ∈ s.visited
  closed : ∀ x ∈ s.fin, ∀ v, E g0 x v → v ∈ s.visited

variable {g0 g : G} {act visited : List Nat} {s : St} {u : Nat} {node : Node}

theorem Frame.get_unvisited (hf : Frame g0 g visited) {c : Nat} (hv : u ∉ visited)
    (hu : g.get u = some node) (hc : c ∈ node.childIds) : g0.get u = some node := by
  cases h0 : g0.get u with
  | some n0 => exact (hf.unvisited u n0 h0 hv).symm.trans hu
  | none =>
    rcases hf.onlyBox.new u h0 with h | ⟨_, d, h⟩
    · cases h.symm.trans hu
    · cases h.symm.trans hu; cases hc

theorem start_graph (hf : Frame g0 g visited) (hc : CutOnCycle g0 g) (hv : u ∉ visited)
    (hu : g.get u = some node) (hp : ∀ a ∈ act, Path g0 a u) :
    Frame g0 (startG g (u :: act) u node) (u :: visited) ∧
      CutOnCycle g0 (startG g (u :: act) u node) := by
  have hk := hf.keys
  have cut : CutOnCycle g0 (startG g (u :: act) u node) := fun i n hi => by
    by_cases hiu : i = u
    · subst hiu
      cases (hf.unvisited i n hi hv).symm.trans hu
      obtain ⟨f, hf1, hf2⟩ := startG_self (act := i :: act) hk hu
      refine ⟨f, hf1, fun c hcm => (hf2 c hcm).imp And.right fun ⟨hact, hbox⟩ => ⟨hbox, ?_⟩⟩
      exact (List.mem_cons.mp hact).imp id (hp c)
    · obtain ⟨f, hget, hch⟩ := hc i n hi
      refine ⟨f, (startG_get_other hiu (hk i _ hget)).trans hget, fun c hcm => ?_⟩
      exact (hch c hcm).imp id (And.imp_left (startG_box_stable hk hu))
  refine ⟨⟨startG_keys hk hu, fun i n hi hni => ?_,
    { next := ?_, old := cut.onlyBox_old, new := fun i hi => ?_ }⟩, cut⟩
  · have := hf.unvisited i n hi fun h => hni (List.mem_cons_of_mem _ h)
    exact (startG_get_other (fun (h : i = u) => hni (h ▸ List.mem_cons_self)) (hk i n this)).trans this
  · exact Nat.le_trans hf.onlyBox.next startG_next_le
  · rcases hf.onlyBox.new i hi with h | ⟨hle, c, h⟩
    · have hiu : i ≠ u := fun heq => by cases (heq ▸ h).symm.trans hu
      cases hs : (startG g (u :: act) u node).get i with
      | none => exact .inl rfl
      | some n =>
        rcases startG_get_new hiu hs with h1 | ⟨h1, c, rfl⟩
        · cases h.symm.trans h1
        · exact .inr ⟨Nat.le_trans hf.onlyBox.next h1, c, rfl⟩
    · exact .inr ⟨hle, c, startG_box_stable hk hu h⟩

/-- finishing position: 1-based position from the END of the list (0 = absent) -/
def pos : List Nat → Nat → Nat
  | [], _ => 0
  | y :: rest, x => if x = y then rest.length + 1 else pos rest x

theorem pos_le : ∀ (l : List Nat) (x : Nat), pos l x ≤ l.length
  | [], _ => Nat.le_refl _
  | y :: rest, x => by
    rw [pos]
    split
    · exact Nat.le_refl _
    · exact Nat.le_succ_of_le (pos_le rest x)

theorem pos_pos : ∀ (l : List Nat) (x : Nat), x ∈ l → 0 < pos l x
  | y :: rest, x, h => by
    rw [pos]
    split
    · exact Nat.succ_pos _
    · exact pos_pos rest x ((List.mem_cons.mp h).resolve_left ‹_›)

/-- state invariant while `act` is the active chain -/
structure Inv (g0 : G) (act : List Nat) (s : St) : Prop where
  closed : Closed g0 act s
  cut : CutOnCycle g0 s.g
  fin_sub_visited : ∀ x ∈ s.fin, x ∈ s.visited
  visited_fin_or_active : ∀ x ∈ s.visited, x ∈ s.fin ∨ x ∈ act
  order : ∀ x ∈ s.fin, ∀ v, E s.g x v → Leaf s.g v ∨ (v ∈ s.fin ∧ pos s.fin v < pos s.fin x)

theorem Inv.init (hk : KeysBelow g) : Inv g [] { g := g, visited := [], fin := [] } where
  closed := { frame := .init hk, actVis := fun _ => nofun, closed := fun _ => nofun }
  cut := .init
  fin_sub_visited _ := nofun
  visited_fin_or_active _ := nofun
  order _ := nofun

theorem Inv.push (hi : Inv g0 act s) (hf : Frame g0 g (u :: s.visited)) (hc : CutOnCycle g0 g)
    (e : Ext s (s.push u g)) : Inv g0 (u :: act) (s.push u g) where
  closed := ⟨hf, List.forall_mem_cons.mpr ⟨List.mem_cons_self,
      fun a ha => List.mem_cons_of_mem _ (hi.closed.actVis a ha)⟩,
    fun x hx v he => List.mem_cons_of_mem _ (hi.closed.closed x hx v he)⟩
  cut := hc
  fin_sub_visited x hx := List.mem_cons_of_mem _ (hi.fin_sub_visited x hx)
  visited_fin_or_active := List.forall_mem_cons.mpr ⟨.inr List.mem_cons_self,
    fun x hx => (hi.visited_fin_or_active x hx).imp id (List.mem_cons_of_mem _)⟩
  order x hx v he := (hi.order x hx v (e.edges x (hi.fin_sub_visited x hx) v he)).imp (e.leaf v) id

theorem Inv.pop (hi : Inv g0 (u :: act) s) (hnf : u ∉ s.fin)
    (ht : ∀ v, E s.g u v → Leaf s.g v ∨ v ∈ s.fin) (hcl : ∀ v, E g0 u v → v ∈ s.visited) :
    Inv g0 act (s.pop u) where
  closed := ⟨hi.closed.frame, fun a ha => hi.closed.actVis a (List.mem_cons_of_mem _ ha),
    List.forall_mem_cons.mpr ⟨hcl, hi.closed.closed⟩⟩
  cut := hi.cut
  fin_sub_visited := List.forall_mem_cons.mpr ⟨hi.closed.actVis u List.mem_cons_self, hi.fin_sub_visited⟩
  visited_fin_or_active x hx := (hi.visited_fin_or_active x hx).elim (fun h => .inl (List.mem_cons_of_mem _ h)) fun h =>
    (List.mem_cons.mp h).imp (fun (e : x = u) => e ▸ List.mem_cons_self) id
  order := by
    -- the nodes finished before keep their positions, `u` gets the highest
    have old : ∀ {y}, y ∈ s.fin → pos (u :: s.fin) y = pos s.fin y := fun hy =>
      if_neg fun (e : _ = u) => hnf (e ▸ hy)
    refine List.forall_mem_cons.mpr ⟨fun v he => (ht v he).imp id fun hv => ?_, fun x hx v he =>
      (hi.order x hx v he).imp id fun ⟨hv, hlt⟩ => ⟨List.mem_cons_of_mem _ hv, ?_⟩⟩
    · refine ⟨List.mem_cons_of_mem _ hv, ?_⟩
      show pos (u :: s.fin) v < pos (u :: s.fin) u
      rw [old hv, pos, if_pos rfl]
      exact Nat.lt_succ_of_le (pos_le _ v)
    · show pos (u :: s.fin) v < pos (u :: s.fin) x
      rwa [old hv, old hx]

theorem Inv.start (hi : Inv g0 act s) (hv : u ∉ s.visited) (hu : s.g.get u = some node)
    (hp : ∀ a ∈ act, Path g0 a u) : Inv g0 (u :: act) (s.push u (startG s.g (u :: act) u node)) :=
  let ⟨f1, c1⟩ := start_graph hi.closed.frame hi.cut hv hu hp
  hi.push f1 c1 (.start hv hu)

theorem Inv.descend {c : Nat} (hi : Inv g0 act s) (hv : u ∉ s.visited) (hu : s.g.get u = some node)
    (hp : ∀ a ∈ act, Path g0 a u) (hc : c ∈ node.childIds) :
    E g0 u c ∧ ∀ a ∈ u :: act, Path g0 a c :=
  have he : E g0 u c := ⟨node, hi.closed.frame.get_unvisited hv hu hc, hc⟩
  ⟨he, Path.descend hp he⟩

theorem visit_inv {fuel : Nat} {s' : St} (h : visit fuel act u s = some s') :
    Inv g0 act s → (∀ a ∈ act, Path g0 a u) → Inv g0 act s' :=
  visit_rule (R := fun act u s s' => Inv g0 act s → (∀ a ∈ act, Path g0 a u) → Inv g0 act s')
    (fun _ hi _ => hi)
    (fun {act u s} hv hu hi _ => by
      have hf := hi.closed.frame
      have i1 : Inv g0 (u :: act) (s.push u s.g) := hi.push
        { hf with unvisited := fun i n h0 hni => hf.unvisited i n h0 fun h => hni (List.mem_cons_of_mem _ h) }
        hi.cut (.push (fun _ _ _ => id) fun _ => id)
      refine i1.pop (fun h => hv (hi.fin_sub_visited u h)) (fun v ⟨n, hn, _⟩ => ?_) fun v ⟨n, hn, _⟩ => ?_
      · cases hu.symm.trans hn
      · cases hu.symm.trans (hf.unvisited u n hn hv))
    (fun {fuel act u s node s2} hv hu ih h2 hi hp => by
      have hf := hi.closed.frame
      have i2 : Inv g0 (u :: act) s2 := visitList_fold h2
        (fun c hc s s' h hs => ih c s s' h hs (hi.descend hv hu hp (mem_desc.mp hc).1).2)
        (hi.start hv hu hp)
      obtain ⟨e2, v2⟩ := visitList_visit_ext h2
      refine i2.pop (fun h => ?_) (fun v he => ?_) fun v ⟨n, hn, hvn⟩ => ?_
      · exact (e2.newFin u h).elim (fun h => hv (hi.fin_sub_visited u h)) fun h => h List.mem_cons_self
      · -- a surviving edge of `u` leads to a `Box` or to a child that was descended into
        rcases startG_children hf.keys hu (e2.edges u List.mem_cons_self v he) with hl | ⟨hc, hna⟩
        · exact .inl (e2.leaf v hl)
        · exact .inr ((i2.visited_fin_or_active v (v2 v (mem_desc.mpr ⟨hc, hna⟩))).resolve_right hna)
      · cases (hf.unvisited u n hn hv).symm.trans hu
        by_cases hact : v ∈ u :: act
        · exact i2.closed.actVis v hact
        · exact v2 v (mem_desc.mpr ⟨hvn, hact⟩))
    h

theorem breakCyclesSt_inv {fuel lo hi : Nat} (hk : KeysBelow g)
    (h : breakCyclesSt fuel g lo hi = some s) : Inv g [] s ∧ ∀ r ∈ roots lo hi, r ∈ s.visited :=
  ⟨visitList_fold h (fun _ _ _ _ h hs => visit_inv h hs fun _ => nofun) (.init hk),
    (visitList_visit_ext h).2⟩

/-- the rank certifying acyclicity: 0 for nodes without by-value children, else the finishing position -/
def rank (g : G) (fin : List Nat) (v : Nat) : Nat := if isLeaf g v then 0 else pos fin v

theorem Inv.rank_step (hi : Inv g0 act s) {u v : Nat} (hu : u ∈ s.fin ∨ Leaf s.g u)
    (he : E s.g u v) : (v ∈ s.fin ∨ Leaf s.g v) ∧ rank s.g s.fin v < rank s.g s.fin u := by
  have hnl : ¬ Leaf s.g u := fun hl => hl.no_edge he
  have hu := hu.resolve_right hnl
  rw [rank, rank, if_neg (mt isLeaf_iff.mp hnl)]
  rcases hi.order u hu v he with h | ⟨hm, hlt⟩
  · exact ⟨.inr h, by rw [if_pos (isLeaf_iff.mpr h)]; exact pos_pos _ u hu⟩
  · refine ⟨.inl hm, ?_⟩
    split
    · exact pos_pos _ u hu
    · exact hlt

theorem Inv.reach_fin {lo hi : Nat} (hi' : Inv g [] s) (hr : ∀ r ∈ roots lo hi, r ∈ s.visited)
    {u : Nat} (h : Reach s.g lo hi u ∨ Reach g lo hi u) : u ∈ s.fin ∨ Leaf s.g u := by
  have vf : ∀ x ∈ s.visited, x ∈ s.fin := fun x hx => (hi'.visited_fin_or_active x hx).resolve_right nofun
  rcases h with h | h
  · induction h with
    | root h1 h2 => exact .inl (vf _ (hr _ (mem_roots.mpr ⟨h1, h2⟩)))
    | step _ he ih => exact (hi'.rank_step ih he).1
  · refine .inl ?_
    induction h with
    | root h1 h2 => exact vf _ (hr _ (mem_roots.mpr ⟨h1, h2⟩))
    | step _ he ih => exact vf _ (hi'.closed.closed _ ih _ he)

theorem chain_length_le {N : Nat} {l : List Nat} (hn : l.Nodup) (hb : ∀ a ∈ l, a < N) :
    l.length ≤ N := by
  simpa using hn.length_le_of_subset (l₂ := List.range N) fun a ha => List.mem_range.mpr (hb a ha)

theorem visitList_total {f : Nat → St → Option St} {P : St → Prop} :
    ∀ (cs : List Nat), (∀ c ∈ cs, ∀ s, P s → ∃ s', f c s = some s' ∧ P s') →
    ∀ (s : St), P s → ∃ s', visitList f cs s = some s'
  | [], _, s, _ => ⟨s, rfl⟩
  | c :: cs, ht, s, hs =>
    let ⟨s1, h1, hs1⟩ := ht c List.mem_cons_self s hs
    let ⟨s2, h2⟩ := visitList_total cs (fun d hd => ht d (List.mem_cons_of_mem _ hd)) s1 hs1
    ⟨s2, visitList_cons.mpr ⟨s1, h1, h2⟩⟩

/-- the active chain has distinct ids below `next_id`, so the depth never exceeds `next_id` -/
theorem visit_total (hw : WF g0) : ∀ (fuel : Nat) (act : List Nat) (u : Nat) (s : St),
    Inv g0 act s → (∀ a ∈ act, Path g0 a u) → act.Nodup → (∀ a ∈ act, a < g0.next) → u < g0.next →
    g0.next < fuel + act.length → ∃ s', visit fuel act u s = some s'
  | 0, _, _, _, _, _, hn, hb, _, hfuel => by
    have := chain_length_le hn hb
    omega
  | fuel + 1, act, u, s, hi, hp, hn, hb, hu, hfuel => by
    rw [visit_succ]
    split
    · exact ⟨_, rfl⟩
    · rename_i hv
      split
      · exact ⟨_, rfl⟩
      · rename_i node hnode
        have hn' : (u :: act).Nodup := List.nodup_cons.mpr ⟨fun h => hv (hi.closed.actVis u h), hn⟩
        obtain ⟨s2, h2⟩ := visitList_total (P := Inv g0 (u :: act)) (desc node (u :: act))
          (fun c hc s hs => by
            obtain ⟨he, hpc⟩ := hi.descend hv hnode hp (mem_desc.mp hc).1
            obtain ⟨m, hm⟩ := hw.children u c he
            obtain ⟨s', h⟩ := visit_total hw fuel (u :: act) c s hs hpc hn'
              (List.forall_mem_cons.mpr ⟨hu, hb⟩) (hw.keys c m hm)
              (by rw [List.length_cons]; omega)
            exact ⟨s', h, visit_inv h hs hpc⟩)
          _ (hi.start hv hnode hp)
        rw [h2]
        exact ⟨_, rfl⟩

theorem breakCyclesSt_total {lo hi : Nat} (hw : WF g) (hhi : hi ≤ g.next) :
    ∃ s, breakCyclesSt (g.next + 1) g lo hi = some s :=
  visitList_total (P := Inv g []) _
    (fun c hc s hs =>
      have hp : ∀ a ∈ [], Path g a c := fun _ => nofun
      let ⟨s', h⟩ := visit_total hw (g.next + 1) [] c s hs hp .nil (fun _ => nofun)
        (Nat.lt_of_lt_of_le (mem_roots.mp hc).2 hhi) (Nat.lt_succ_self _)
      ⟨s', h, visit_inv h hs hp⟩)
    _ (.init hw.keys)

end TypifyModel.Cycles
