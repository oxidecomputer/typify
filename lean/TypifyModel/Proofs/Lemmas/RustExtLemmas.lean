import TypifyModel.Model.RustExt
/-! Helper lemmas for C13: `splitSep` finds the first `::`; `admitCrate` is the policy table. -/
namespace TypifyModel.RustExt

/-- the text starts with `::` -/
def startsSep : List Char → Bool
  | ':' :: ':' :: _ => true
  | _ => false

theorem splitSep_some : ∀ {s a b : List Char}, splitSep s = some (a, b) →
    s = a ++ b ∧ startsSep b = true := by
  intro s
  fun_induction splitSep s with
  | case1 => intro a b h; cases h
  | case2 r => intro a b h; cases h; exact ⟨rfl, rfl⟩
  | case3 c r hne ih =>
    intro a b h
    obtain ⟨⟨a', b'⟩, hr, h⟩ := Option.map_eq_some_iff.mp h
    cases h
    exact ⟨congrArg (c :: ·) (ih hr).1, (ih hr).2⟩

theorem startsSep_cons {c : Char} {r : List Char} (hne : ∀ r', c = ':' → r = ':' :: r' → False) :
    startsSep (c :: r) = false := by
  unfold startsSep
  split
  · rename_i heq
    cases heq
    exact (hne _ rfl rfl).elim
  · rfl

/-- `find` returns the first occurrence: no proper suffix of the prefix (followed by the rest)
    starts with `::` -/
theorem splitSep_first : ∀ {s a b : List Char}, splitSep s = some (a, b) →
    ∀ a1 a2, a = a1 ++ a2 → a2 ≠ [] → startsSep (a2 ++ b) = false := by
  intro s
  fun_induction splitSep s with
  | case1 => intro a b h; cases h
  | case2 r => intro a b h; cases h; intro a1 a2 e; simp at e; simp [e.2]
  | case3 c r hne ih =>
    intro a b h
    obtain ⟨⟨a', b'⟩, hr, h⟩ := Option.map_eq_some_iff.mp h
    cases h
    intro a1 a2 e hne2
    cases a1 with
    | nil =>
      cases e
      rw [List.cons_append, ← (splitSep_some hr).1]
      exact startsSep_cons hne
    | cons x a1' =>
      cases e
      exact ih hr a1' a2 rfl hne2

theorem splitSep_none : ∀ {s : List Char}, splitSep s = none →
    ∀ a b, s = a ++ b → startsSep b = false := by
  intro s
  fun_induction splitSep s with
  | case1 => intro _ a b e; simp at e; simp [e.2, startsSep]
  | case2 r => intro h; cases h
  | case3 c r hne ih =>
    intro h a b e
    cases a with
    | nil => cases e; exact startsSep_cons hne
    | cons x a' =>
      cases e
      exact ih (Option.map_eq_none_iff.mp h) a' b rfl

theorem admitCrate_eq_some_iff (cfg : Cfg) (crate : String) (req : Semver.Req) (s : Option CrateSpec) :
    admitCrate cfg crate req = some s ↔ s = cfg.lookup crate ∧
      ((∃ spec, cfg.lookup crate = some spec ∧
        (spec.vers = .any ∨ ∃ v, spec.vers = .version v ∧ Semver.matchesReq req v = true))
      ∨ (cfg.lookup crate = none ∧ cfg.unknown = .allow)) := by
  unfold admitCrate
  cases cfg.lookup crate with
  | some spec =>
    cases hv : spec.vers with
    | any => simp [hv, eq_comm (a := s)]
    | never => simp [hv]
    | version v => by_cases hm : Semver.matchesReq req v = true <;> simp [hv, hm, eq_comm (a := s)]
  | none => cases cfg.unknown <;> simp [eq_comm (a := s)]

theorem admitCrate_isSome (cfg : Cfg) (crate : String) (req : Semver.Req) :
    (admitCrate cfg crate req).isSome = true ↔
      (∃ spec, cfg.lookup crate = some spec ∧
        (spec.vers = .any ∨ ∃ v, spec.vers = .version v ∧ Semver.matchesReq req v = true))
      ∨ (cfg.lookup crate = none ∧ cfg.unknown = .allow) := by
  simp only [Option.isSome_iff_exists, admitCrate_eq_some_iff, exists_and_right, exists_eq, true_and]

theorem nameMatch_iff {key p : String} {ps : List String} :
    nameMatch key p ps.length = true ↔ ps ≠ [] ∨ key = lastSeg p := by
  cases ps <;> simp [nameMatch]

theorem decide_eq_some_iff (cfg : Cfg) (e : Ext) (p : String) :
    RustExt.decide cfg e = some p ↔
      ∃ req rest sp, Semver.parseReq e.version = some req
        ∧ splitSep e.path.toList = some (replaceDash e.crate.toList, rest)
        ∧ admitCrate cfg e.crate req = some sp
        ∧ String.ofList (':' :: ':' :: (match sp.bind (·.rename) with
            | some r => replaceDash r.toList ++ rest
            | none => e.path.toList)) = p := by
  unfold RustExt.decide
  cases Semver.parseReq e.version with
  | none => simp
  | some req =>
    cases splitSep e.path.toList with
    | none => simp
    | some pr =>
      obtain ⟨pre, rest⟩ := pr
      by_cases hp : replaceDash e.crate.toList = pre
      · subst hp
        cases ha : admitCrate cfg e.crate req with
        | none => simp [ha]
        | some sp => simp [ha]; rfl
      · simp [hp, Ne.symm hp]

end TypifyModel.RustExt
