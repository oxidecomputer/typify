import TypifyModel.Proofs.C10
/-! Kernel-checked refutations of the full C10 statements on the current tree (known findings).
    This file is *expected* to stop compiling when a finding is repaired in /repo; the check then
    reports the finding as gone instead of raising an alarm. -/
namespace TypifyModel.C10
open TypifyModel TypifyModel.Integer TypifyModel.Generated

/-- it is false on the current tree: `uint`/`int` are read as 32-bit (known finding C10-uint-format) -/
theorem formats_spec_full_false : ¬ formats_spec_full := by
  intro h
  obtain ⟨lo, hi, hs, h1, h2⟩ := h ⟨"uint", .u32, .nzu32, 0, 4294967295⟩ (by decide)
  simp [specRange] at hs
  obtain ⟨rfl, rfl⟩ := hs
  simp [RTy.hi] at h2


end TypifyModel.C10
