import TypifyModel.Proofs.Dispatch
import TypifyModel.Proofs.DispatchSource
/-! C01's acceptance clause stated on the match AS WRITTEN: for a schema object of the supported fragment the first arm of
    `match schema` (table T11, regenerated from /repo) whose patterns and guard hold is one of arms 0..20 — a conversion — and
    never one of the re-dispatching arms, the multi-type arm or the final `todo!()`. -/
namespace TypifyModel.Dispatch
open TypifyModel TypifyModel.Excl TypifyModel.Generated

theorem firstTrue_of_mem : ∀ (bs : List Bool) (i : Nat), true ∈ bs →
    ∃ k, firstTrue bs i = some k ∧ k < i + bs.length
  | true :: r, i, _ => ⟨i, rfl, Nat.lt_add_of_pos_right (Nat.succ_pos _)⟩
  | false :: r, i, h =>
    let ⟨k, hk, hlt⟩ := firstTrue_of_mem r (i + 1) ((List.mem_cons.mp h).resolve_left nofun)
    ⟨k, hk, by rw [List.length_cons]; omega⟩

theorem typedArms_length (kvs : Kvs) (sg : JT → Bool) (u o : Bool) : (typedArms kvs sg u o).length = 20 := rfl

/-- **on the supported fragment the source takes a converting arm**: the first arm of the match as written that matches a
    schema object of `Fragment` is one of arms 0..20 -/
theorem fragment_source_arm (kvs : Kvs) (hf : Fragment kvs) (hb : tyOf kvs ≠ .bad) :
    ∃ i, srcFirst (absTy (tyOf kvs)) (groupsOf kvs) (dispatchArms.map compact) 0 = some i ∧ i ≤ 20 := by
  rw [source_first_match kvs hb]
  rcases fragment_arm kvs hf with ⟨t, hne, hty⟩ | ⟨a, ⟨hm, _, hfind⟩, _⟩
  · -- a nullable pair is taken by arm 0
    have h0 : nullableFires (absTy (tyOf kvs)) = true := by
      rcases hty with hty | hty <;> rw [hty] <;> cases t <;> first | rfl | exact absurd rfl hne
    exact ⟨0, by rw [h0]; rfl, Nat.zero_le _⟩
  · -- arm `a` of the table is arm 1 + its position of the source
    have h0 : nullableFires (absTy (tyOf kvs)) = false := by
      cases hty : tyOf kvs <;> first | rfl | (rw [hty] at hm; cases hm)
    obtain ⟨k, hk, hlt⟩ := firstTrue_of_mem _ 1
      (List.mem_map_of_mem (f := (·.1)) (List.mem_of_find?_eq_some hfind))
    rw [List.length_map, typedArms_length] at hlt
    exact ⟨k, by rw [h0, hk]; rfl, by omega⟩

end TypifyModel.Dispatch
