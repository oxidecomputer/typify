import TypifyModel.Model.Natives
import TypifyModel.Generated.StringFormats
/-! # C10, string formats: recognised formats map to the documented types, unrecognised ones degrade to `String`
    (over the table regenerated from `convert_string`, translator T2) -/
namespace TypifyModel.C10S
open TypifyModel TypifyModel.Generated

/-- one evaluation for the four facts below: the shared literals are expanded once -/
theorem string_formats_facts :
    (documentedFormats.all fun d => (selectStringFormat stringFormats stringFormatFallback d.1).path == d.2) = true ∧
    (stringFormats.all fun r => r.path == "String" || (nativeFacts r.path).isSome) = true ∧
    (stringFormatsGuarded = [] ∧ (stringFormats.map (·.fmt)).Nodup) ∧
    (stringFormats.all StrFormatRow.usesOk) = true := by decide +kernel

/-- every documented format selects its documented type -/
theorem string_formats_documented :
    (documentedFormats.all fun d => (selectStringFormat stringFormats stringFormatFallback d.1).path == d.2) = true :=
  string_formats_facts.1

/-- **every** format string that no arm names degrades to a plain `String` -/
theorem string_format_unrecognised (fmt : String) (h : ∀ r ∈ stringFormats, r.fmt ≠ fmt) :
    (selectStringFormat stringFormats stringFormatFallback fmt).path = "String" := by
  unfold selectStringFormat
  have : stringFormats.find? (fun r => r.fmt == fmt) = none := by
    rw [List.find?_eq_none]
    intro r hr
    simpa using h r hr
  rw [this]
  show stringFormatFallback.path = "String"
  decide +kernel

/-- a recognised format never selects anything but a plain `String` or one of the natives whose facts are recorded -/
theorem string_formats_known :
    (stringFormats.all fun r => r.path == "String" || (nativeFacts r.path).isSome) = true := string_formats_facts.2.1

/-- the arms are unconditional (no `if` guard) and name each format once -/
theorem string_formats_functional :
    stringFormatsGuarded = [] ∧ (stringFormats.map (·.fmt)).Nodup := string_formats_facts.2.2.1

/-- C17 clause: an arm that selects a path in an external crate sets that crate's `uses_` flag -/
theorem string_formats_uses : (stringFormats.all StrFormatRow.usesOk) = true := string_formats_facts.2.2.2

example : (selectStringFormat stringFormats stringFormatFallback "hostname").path = "String" := by decide +kernel
example : (selectStringFormat stringFormats stringFormatFallback "uuid").path = "::uuid::Uuid" := by decide +kernel

end TypifyModel.C10S
