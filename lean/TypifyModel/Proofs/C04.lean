import TypifyModel.Proofs.Lemmas.WireAcc
/-! # C04 — Rust → schemars → typify is wire compatible

The original Rust types (serde + schemars derives) are described by the same IR as typify's output (`σ`, origin;
`σ'`, generated) and given meaning by the same `Serde` model. `WireEq.wireRB σ σ' ρ f T T'` is a decidable structural
relation (both directions of `accB`: *the reader reads everything the writer writes*) over a correspondence `ρ` of the
named types; `WireEq.wireB` computes `ρ` itself.

`wire_exchange`: ∀ spaces, correspondences, types, values `x` of `T` (well-formed: `tyB`, which `de_ty` shows of
everything `Deserialize` or `Default` produces), if `T` writes `x` as `j` then `T'` does **not reject** `j`, and for every
`x'` it reads, whatever `T'` writes for `x'` is **not rejected** by `T` — for every fuel (`fuel` / `unsupported` are
non-verdicts, as in C02). Recursive types need no guardedness: the induction is on the typing fuel of the value.

That schemars + typify establish `wireB` is not proved; it is checked per (root type, route) by running `wireB` on the
origin IR and the real generated dump (translation validation in `./check C04`). -/
namespace TypifyModel.C04
open TypifyModel TypifyModel.Serde TypifyModel.WireEq

variable (x : Serde.Ext)

theorem allAcc_of_wireRB {σ σ' : Space} {ρ : List (Id × Id)} {f : Nat} {T T' : Id} (h : wireRB σ σ' ρ f T T' = true) :
    AllAcc σ σ' ρ ∧ AllAcc σ' σ (swapρ ρ) ∧ accB σ σ' ρ f T T' = true ∧ accB σ' σ (swapρ ρ) f T' T = true := by
  simp only [wireRB, Bool.and_eq_true] at h
  obtain ⟨⟨⟨h1, h2⟩, h3⟩, h4⟩ := h
  exact ⟨allAccB_AllAcc σ σ' ρ h1, allAccB_AllAcc σ' σ (swapρ ρ) h2, h3, h4⟩

theorem wire_exchange {σ σ' : Space} {ρ : List (Id × Id)} {f : Nat} {T T' : Id}
    (hw : wireRB σ σ' ρ f T T' = true)
    {ft : Nat} {xv : Val} (hty : tyB σ ft T xv = true)
    {fs : Nat} {j : Json} (hse : se σ fs T xv = .ok j) :
    (∀ fd, NR (de x σ' fd T' j)) ∧
    (∀ fd' x', de x σ' fd' T' j = .ok x' → ∀ fs' j', se σ' fs' T' x' = .ok j' → ∀ fd, NR (de x σ fd T j')) := by
  obtain ⟨ha, hb, hacc, hrev⟩ := allAcc_of_wireRB hw
  refine ⟨acc_sound x σ σ' ρ ha hacc hty hse, ?_⟩
  intro fd' x' hde fs' j' hse'
  exact acc_sound x σ' σ (swapρ ρ) hb hrev (de_ty x σ' hde) hse'

/-- the same for values obtained by deserialisation (`x = from_value(j0)`), which is how the check draws them -/
theorem wire_exchange_de {σ σ' : Space} {ρ : List (Id × Id)} {f : Nat} {T T' : Id}
    (hw : wireRB σ σ' ρ f T T' = true)
    {f0 : Nat} {j0 : Json} {xv : Val} (hx : de x σ f0 T j0 = .ok xv)
    {fs : Nat} {j : Json} (hse : se σ fs T xv = .ok j) :
    (∀ fd, NR (de x σ' fd T' j)) ∧
    (∀ fd' x', de x σ' fd' T' j = .ok x' → ∀ fs' j', se σ' fs' T' x' = .ok j' → ∀ fd, NR (de x σ fd T j')) :=
  wire_exchange x hw (de_ty x σ hx) hse

/-- with the correspondence computed by `wireB` (what the driver evaluates) -/
theorem wire_exchange_B {σ σ' : Space} {f : Nat} {T T' : Id} (hw : wireB σ σ' f T T' = true)
    {f0 : Nat} {j0 : Json} {xv : Val} (hx : de x σ f0 T j0 = .ok xv)
    {fs : Nat} {j : Json} (hse : se σ fs T xv = .ok j) :
    (∀ fd, NR (de x σ' fd T' j)) ∧
    (∀ fd' x', de x σ' fd' T' j = .ok x' → ∀ fs' j', se σ' fs' T' x' = .ok j' → ∀ fd, NR (de x σ fd T j')) :=
  wire_exchange_de x (ρ := rhoOf σ σ' f) hw hx hse

/-! non-vacuity: an origin universe (`struct S { a: u8, o: Option<String>, e: E }`, `enum E { U, N(u8) }`, the plain
    `Option` written as `null`) against what typify generates for its schemars schema (`o` becomes
    `#[serde(default, skip_serializing_if = "Option::is_none")]`, the unit variant of `E` moves to the front). -/
def exOrigin : Space := { entries := [
  (0, ⟨.struct "S" [⟨"a", .none, .required, 2⟩, ⟨"o", .none, .required, 4⟩, ⟨"e", .none, .required, 1⟩] false none, [], []⟩),
  (1, ⟨.enum "E" .external [⟨"N", "N", .item 2⟩, ⟨"U", "U", .simple⟩] false none [], [], []⟩),
  (2, ⟨.integer "u8", [], []⟩), (3, ⟨.string, [], []⟩), (4, ⟨.option 3, [], []⟩)] }

def exGenerated : Space := { entries := [
  (0, ⟨.struct "S" [⟨"a", .none, .required, 5⟩, ⟨"e", .none, .required, 1⟩, ⟨"o", .none, .optional, 7⟩] false none, [], []⟩),
  (1, ⟨.enum "E" .external [⟨"U", "U", .simple⟩, ⟨"N", "N", .item 5⟩] false none [], [], []⟩),
  (5, ⟨.integer "u8", [], []⟩), (6, ⟨.string, [], []⟩), (7, ⟨.option 6, [], []⟩)] }

example : wireB exOrigin exGenerated 8 0 0 = true := by decide

example : ∃ xv j, tyB exOrigin 8 0 xv = true ∧ se exOrigin 8 0 xv = .ok j :=
  ⟨.struct [("a", .int 7), ("o", .none), ("e", .variant 0 (.int 1))], _, by decide, rfl⟩

/-- the pointer-sized integers: the generated `u32` does not read everything the origin `u64` (usize) writes, and
    `wireB` says so -/
example : wireB { entries := [(0, ⟨.integer "u64", [], []⟩)] } { entries := [(0, ⟨.integer "u32", [], []⟩)] } 8 0 0 = false := by
  decide

end TypifyModel.C04
