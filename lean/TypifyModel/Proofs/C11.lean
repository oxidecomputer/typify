import TypifyModel.Proofs.Lemmas.StrConvLemmas
import TypifyModel.Proofs.Lemmas.SerdeBasics
/-! # C11 — string conversions of generated types agree with their wire format

∀ IR, ∀ strings. The models of the three hand-written templates (`fromStr`, `tryFromStr`,
`display` in `Model/StrConv.lean`) are separate definitions from `de`/`se` (`Model/Serde*.lean`),
so their agreement is proved: e.g. for simple enums `fromStr` looks up `raw_name`, `de` looks up
`Variant.wire` (equal by `Variant.wire_eq_raw`) and checks the variant is data-less. The tie of both models to the compiled generated code
is the M3 correspondence of `./check C11`. -/
namespace TypifyModel.C11
open TypifyModel TypifyModel.Serde

/-- generated types whose wire form is always a JSON string and that offer string conversions,
    base kinds: simple (field-less, externally tagged) enums; newtypes over `String` without and
    with length/pattern constraints -/
inductive BaseWire (σ : Space) : Id → Prop
  | simpleEnum {t : Id} {n : String} {vs : List Variant} {deny : Bool} {d : Option Json}
      {bes : List Bespoke} {ed : List String} {im : List Impl} :
      σ.get t = some ⟨.enum n .external vs deny d bes, ed, im⟩ →
      bes.contains .allSimpleVariants = true → isAllSimple vs = true → BaseWire σ t
  | strNewtype {t inner : Id} {n : String} {d : Option Json} {ed ed' : List String} {im im' : List Impl} :
      σ.get t = some ⟨.newtype n inner .none d, ed, im⟩ →
      σ.get inner = some ⟨.string, ed', im'⟩ → BaseWire σ t
  | strConstrained {t inner : Id} {n : String} {mx mn : Option Nat} {pat : Option String}
      {d : Option Json} {ed ed' : List String} {im im' : List Impl} :
      σ.get t = some ⟨.newtype n inner (.string mx mn pat) d, ed, im⟩ →
      σ.get inner = some ⟨.string, ed', im'⟩ → BaseWire σ t

/-- **C11 (base kinds): parsing a string = deserializing the JSON string**, same value or same
    rejection, for every string and any fuel ≥ 2 on either side. -/
theorem base_fromstr_eq_de (x : Ext) (σ : Space) (t : Id) (h : BaseWire σ t) (f g : Nat) (s : String) :
    fromStr x σ (f + 2) t s = de x σ (g + 2) t (.str s) := by
  cases h with
  | simpleEnum hget hb hs =>
    rename_i n vs deny d bes ed im
    simp only [fromStr, de, hget, hb, if_true, findIdx_wire_raw]
    cases hi : vs.findIdx? (fun v => v.rawName == s) with
    | none => rfl
    | some i =>
      have hlt : i < vs.length := (List.findIdx?_eq_some_iff_getElem.mp hi).1
      have hv : vs[i]? = some vs[i] := List.getElem?_eq_getElem hlt
      have hd := allSimple_get hs hv
      simp only [hv]
      generalize vs[i] = vr at hd ⊢
      obtain ⟨_, _, det⟩ := vr
      cases hd; rfl
  | strNewtype hget hin =>
    simp only [fromStr, de, hget, hin]
  | strConstrained hget hin =>
    simp only [fromStr, de, hget, hin]

/-- `TryFrom<&str>`, `TryFrom<&String>` and `TryFrom<String>` are `value.parse()` -/
theorem tryfrom_eq_fromstr (x : Ext) (σ : Space) (f : Nat) (t : Id) (s : String) :
    tryFromStr x σ f t s = fromStr x σ f t s := rfl

/-- **C11 (untagged enums over such types)**: both sides try the variants in order -/
theorem untagged_fromstr_eq_de (x : Ext) (σ : Space) (t : Id) {n : String} {vs : List Variant}
    {deny : Bool} {d : Option Json} {bes : List Bespoke} {ed : List String} {im : List Impl}
    (hget : σ.get t = some ⟨.enum n .untagged vs deny d bes, ed, im⟩)
    (hns : bes.contains .allSimpleVariants = false) (hfs : bes.contains .untaggedFromStr = true)
    (hvs : ∀ v ∈ vs, ∃ t', v.details = .item t' ∧ BaseWire σ t')
    (f g : Nat) (s : String) :
    fromStr x σ (f + 3) t s = de x σ (g + 4) t (.str s) := by
  -- fuel: 1 for the enum (+1 in `de`: `deVariantBody`) + 2 for the base kinds
  rw [fromStr, de]
  simp only [hget, hns, hfs, if_true]
  apply firstOk_congr
  intro v hv i
  obtain ⟨t', hd, hb⟩ := hvs v hv
  simp only [hd]
  rw [deVariantBody]
  rw [base_fromstr_eq_de x σ t' hb f g s]
  cases de x σ (g + 2) t' (Json.str s) <;> rfl

/-- **C11: Display prints exactly the string that serialization writes** (simple enums — the raw
    name is used as a `write!` format string with braces escaped — and string newtypes; `hoffer`:
    `display` answers `unsupported` on a constrained one) -/
theorem base_display_eq_ser (σ : Space) (t : Id) (h : BaseWire σ t)
    (hoffer : ∀ n inner mx mn pat d ed im, σ.get t ≠ some ⟨.newtype n inner (.string mx mn pat) d, ed, im⟩)
    (f g : Nat) (v : Val) (w : String)
    (hse : se σ (f + 2) t v = .ok (.str w)) : display σ (g + 2) t v = .ok w := by
  cases h with
  | simpleEnum hget hb hs =>
    rename_i n vs deny d bes ed im
    simp only [se, hget] at hse
    split at hse
    · split at hse
      · cases hse
      · rename_i vr hv
        simp only [allSimple_get hs hv, Except.ok.injEq, Json.str.injEq] at hse
        simp only [display, hget, hv, hb, if_true, fmtLiteral_escape, String.ofList_toList, ← hse,
          Variant.wire_eq_raw]
    · cases hse
  | strNewtype hget hin =>
    simp only [se, hget, hin] at hse
    split at hse
    · cases hse; simp only [display, hget, hin]
    · cases hse
  | strConstrained hget hin =>
    exact absurd hget (hoffer _ _ _ _ _ _ _ _)

theorem untagged_display_eq_ser (σ : Space) (t : Id) {n : String} {vs : List Variant}
    {deny : Bool} {d : Option Json} {bes : List Bespoke} {ed : List String} {im : List Impl}
    (hget : σ.get t = some ⟨.enum n .untagged vs deny d bes, ed, im⟩)
    (hns : bes.contains .allSimpleVariants = false) (hds : bes.contains .untaggedDisplay = true)
    (hvs : ∀ v ∈ vs, ∃ t', v.details = .item t' ∧ BaseWire σ t' ∧
      ∀ n inner mx mn pat d ed im, σ.get t' ≠ some ⟨.newtype n inner (.string mx mn pat) d, ed, im⟩)
    (f g : Nat) (v : Val) (w : String)
    (hse : se σ (f + 4) t v = .ok (.str w)) : display σ (g + 3) t v = .ok w := by
  -- fuel: 1 for the enum (+1 in `se`: `seVariantBody`) + 2 for the base kinds
  simp only [se, hget] at hse
  split at hse
  · split at hse
    · cases hse
    · rename_i vr hv
      obtain ⟨t', hd, hb, hoff⟩ := hvs vr (List.mem_of_getElem? hv)
      simp only [hd, seVariantBody] at hse
      simp only [display, hget, hv, hns, hds, hd]
      exact base_display_eq_ser σ t' hb hoff f g _ w hse
  · cases hse

/-! non-vacuity: a concrete space with a simple enum whose value contains braces, a constrained
    string newtype and an untagged enum over both -/
def exSpace : Space := { entries := [
  (1, ⟨.enum "E" .external [⟨"a{b", "AB", .simple⟩, ⟨"c", "C", .simple⟩] false none [.allSimpleVariants], [], []⟩),
  (2, ⟨.string, [], []⟩),
  (3, ⟨.newtype "N" 2 (.string (some 3) none none) none, [], []⟩),
  (4, ⟨.enum "U" .untagged [⟨"V0", "V0", .item 1⟩, ⟨"V1", "V1", .item 3⟩] false none [.untaggedFromStr], [], []⟩)] }

example : BaseWire exSpace 1 := .simpleEnum (by rfl) (by rfl) (by rfl)
example : BaseWire exSpace 3 := .strConstrained (by rfl) (by rfl)
example : display exSpace 5 1 (.variant 0 .unit) = .ok "a{b" := by rfl
example : fromStr ⟨fun _ _ => true⟩ exSpace 5 4 "abcd" = .error .reject := by rfl
example : fromStr ⟨fun _ _ => true⟩ exSpace 5 4 "c" = .ok (.variant 0 (.variant 1 .unit)) := by rfl

end TypifyModel.C11
