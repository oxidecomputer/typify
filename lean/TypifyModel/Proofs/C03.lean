import TypifyModel.Proofs.Lemmas.JsonBasics
import TypifyModel.Proofs.Lemmas.SortedKv
import TypifyModel.Proofs.Lemmas.RoundTripFlat
/-! # C03 — round trip: the re-serialized value reads back as the same value (hence a fixed point)

`de_se_de`: for every IR σ, every set `S` of type ids closed under reference whose entries satisfy
the decidable side conditions `entryOkB` (Model/RoundTrip.lean), every type in `S`, every JSON
document v: if `de v = ok x` and `se x = ok w` then `de w = ok x`. Corollary `rt_fixed_point`:
the round trip of w is w — `roundtrip(w) = w` of the property. All three evaluations use the same
fuel (the fuel accounting of `se` mirrors `de`). The models are tied to the compiled generated code
by M3 (op `rt`). The other two clauses of the property are proved beside this file: validity of w
in C03Valid.lean (`C03V.rt_valid_enforced`), containment of v in w in C03Contain.lean (`rt_contains`). -/
namespace TypifyModel.C03
open TypifyModel TypifyModel.Serde TypifyModel.RoundTrip

variable (x : Ext) (σ : Space) (S : List Id)

theorem closed_get (hS : closedOkB σ S = true) {t : Id} (ht : t ∈ S) {ent : Entry} (hg : σ.get t = some ent) :
    entryOkB σ ent = true ∧ ∀ c ∈ childrenOf ent.details, c ∈ S := by
  have := (List.all_eq_true.mp hS) t ht
  rw [hg] at this
  simp only [Bool.and_eq_true] at this
  refine ⟨this.1, ?_⟩
  intro c hc
  have := (List.all_eq_true.mp this.2) c hc
  simpa using this

/-- every type of `S` round-trips at fuel `f` -/
def Art (f : Nat) : Prop := ∀ t ∈ S, RTat x σ f t

/-- every well-formed member list over `S` round-trips at fuel `f` -/
def Srt (f : Nat) : Prop :=
  ∀ (ps : List Field) (deny : Bool) (v : Json) (fs : List (String × Val)) (es : List (String × Json)),
    (∀ p ∈ ps, p.ty ∈ S) → (fieldsOkB σ ps || fieldsOkFlatB σ ps) = true →
    deStruct x σ f ps deny v = .ok (.struct fs) → seStruct σ f ps fs = .ok es →
    deStruct x σ f ps deny (.obj es) = .ok (.struct fs)

/-- what `variantOkB` asks of a variant body whatever the tagging -/
def detailsOk (d : VDetails) : Prop :=
  match d with
  | .struct ps => fieldsOkB σ ps = true
  | _ => True

def idsOfD (d : VDetails) : List Id :=
  match d with
  | .simple => []
  | .item t => [t]
  | .tuple ts => ts
  | .struct ps => fieldIds ps

/-- every well-formed variant body over `S` round-trips at fuel `f`, whether or not either reading accepts the
    sequence form of a struct variant (`sq`, `sq'`) -/
def Vrt (f : Nat) : Prop :=
  ∀ (d : VDetails) (deny sq sq' : Bool) (v : Json) (p : Val) (w : Json),
    (∀ c ∈ idsOfD d, c ∈ S) → detailsOk σ d →
    deVariantBody x σ f d deny sq v = .ok p → seVariantBody σ f d p = .ok w →
    deVariantBody x σ f d deny sq' w = .ok p

theorem srt_step {f : Nat} (hA : Art x σ S f) : Srt x σ S (f + 1) := by
  intro ps deny v fs es hin hok h1 h2
  rcases Bool.or_eq_true_iff.mp hok with hok | hok
  · exact struct_rt x σ (fun p hp => hA p.ty (hin p hp)) hok h1 h2
  · exact struct_rt_flat x σ (fun p hp => hA p.ty (hin p hp)) hok h1 h2

theorem deStruct_shape {f : Nat} {ps : List Field} {deny : Bool} {v : Json} {p : Val}
    (h : deStruct x σ f ps deny v = .ok p) : ∃ fs, p = .struct fs := by
  cases f with
  | zero => cases h
  | succ f =>
    simp only [deStruct] at h
    repeat' split at h
    all_goals cases h
    all_goals exact ⟨_, rfl⟩

/-- a tuple type and the payload of a tuple variant are read and written by the same code -/
theorem tuple_rt {f : Nat} {ts : List Id} (hrt : ∀ t ∈ ts, RTat x σ f t) {deny sq sq' : Bool} {v w : Json} {p : Val}
    (h1 : deVariantBody x σ (f + 1) (.tuple ts) deny sq v = .ok p)
    (h2 : seVariantBody σ (f + 1) (.tuple ts) p = .ok w) :
    deVariantBody x σ (f + 1) (.tuple ts) deny sq' w = .ok p := by
  simp only [deVariantBody] at h1 ⊢
  simp only [seVariantBody] at h2
  split at h1
  next xs =>
    split at h1
    next vs hm =>
      cases h1
      simp only at h2
      split at h2
      next js hs =>
        cases h2
        simp only [zipM_back hm hs hrt]
      next => cases h2
    next => cases h1
  next => cases h1

theorem vrt_step {f : Nat} (hA : Art x σ S f) (hS : Srt x σ S f) : Vrt x σ S (f + 1) := by
  intro d deny sq sq' v p w hin hok h1 h2
  cases d with
  | simple =>
    simp only [deVariantBody] at h1 ⊢
    split at h1 <;> cases h1
    cases h2
    rfl
  | item t => exact hA t (hin t List.mem_cons_self) v p w h1 h2
  | tuple ts => exact tuple_rt x σ (fun t ht => hA t (hin t ht)) h1 h2
  | struct ps =>
    simp only [deVariantBody] at h1 ⊢
    have hds : deStruct x σ f ps deny v = .ok p := by
      split at h1
      · cases h1
      · exact h1
    obtain ⟨fs, rfl⟩ := deStruct_shape x σ hds
    simp only [seVariantBody] at h2
    split at h2
    next es hs =>
      cases h2
      -- `hok : detailsOk …` is `fieldsOkB σ ps` here
      have := hS ps deny v fs es (fun q hq => hin q.ty (List.mem_map_of_mem hq)) (by simp [show fieldsOkB σ ps = true from hok]) hds hs
      -- the `match` on `sq'` reduces only at a constructor
      cases sq' <;> exact this
    next => cases h2

theorem art_step (hcl : closedOkB σ S = true) {f : Nat} (hA : Art x σ S f) (hS : Srt x σ S f)
    (hV : Vrt x σ S f) : Art x σ S (f + 1) := by
  intro t ht v xv w h1 h2
  cases hg : σ.get t with
  | none => simp [de, hg] at h1
  | some ent =>
    obtain ⟨hok, hch⟩ := closed_get σ S hcl ht hg
    obtain ⟨det, ed, im⟩ := ent
    simp only [de, hg] at h1 ⊢
    simp only [se, hg] at h2
    cases det with
    | unit | boolean | string | float _ =>
      simp only at h1 h2 ⊢
      split at h1 <;> cases h1 <;> cases h2 <;> rfl
    | jsonValue => cases h1; cases h2; rfl
    | integer n =>
      simp only at h1 h2 ⊢
      split at h1
      next => cases h1
      next ty hty =>
        split at h1
        next k =>
          split at h1
          next hr => cases h1; cases h2; exact if_pos hr
          next => cases h1
        next => cases h1
    | native _ _ | reference _ => cases h1
    | box t' => exact hA t' (hch t' (by simp [childrenOf])) v xv w h1 h2
    | vec t' | set t' =>
      simp only at h1 h2 ⊢
      split at h1
      next xs =>
        split at h1
        next vs hm =>
          cases h1
          simp only at h2
          split at h2
          next js hs =>
            cases h2
            simp only [mapM'_triple hm hs (hA t' (hch t' (by simp [childrenOf])))]
          next => cases h2
        next => cases h1
      next => cases h1
    | array t' n =>
      simp only at h1 h2 ⊢
      split at h1
      next xs =>
        split at h1
        next hl =>
          split at h1
          next vs hm =>
            cases h1
            simp only at h2
            split at h2
            next js hs =>
              cases h2
              have hlen : js.length = n := by rw [mapM'_length hs, mapM'_length hm, hl]
              simp only [hlen, if_true, mapM'_triple hm hs (hA t' (hch t' (by simp [childrenOf])))]
            next => cases h2
          next => cases h1
        next => cases h1
      next => cases h1
    | tuple ts =>
      exact tuple_rt x σ (deny := false) (sq := false) (sq' := false)
        (fun t0 ht0 => hA t0 (hch t0 (by simpa [childrenOf] using ht0))) h1 h2
    | struct n ps deny d =>
      simp only at h1 h2 ⊢
      obtain ⟨fs, rfl⟩ := deStruct_shape x σ h1
      simp only at h2
      split at h2
      next es hs =>
        cases h2
        exact hS ps deny v fs es (fun q hq => hch q.ty (List.mem_map_of_mem hq)) (by simpa [entryOkB] using hok) h1 hs
      next => cases h2
    | newtype n inner c d =>
      simp only at h1 h2 ⊢
      split at h1
      next => cases h1
      next v' hd =>
        -- every successful branch of the constraint check returns the inner value itself
        have hv : xv = v' := by
          cases c <;> simp only at h1 <;> repeat' split at h1
          all_goals cases h1
          all_goals rfl
        subst hv
        rw [hA inner (hch inner (by simp [childrenOf])) v xv w hd h2]
        exact h1
    | option t' =>
      have hrt := hA t' (hch t' (by simp [childrenOf]))
      simp only at h1 h2 ⊢
      split at h2
      next t'' ed' im' hg' =>
        -- nested `Option` (flattened when rendered): `se` succeeded, so there is fuel, and `null` reads as `None` at `t'` too
        simp only [hg'] at h1 ⊢
        obtain ⟨f', rfl⟩ : ∃ f', f = f' + 1 := by
          cases f with
          | zero => cases h2
          | succ f' => exact ⟨f', rfl⟩
        have hnull : de x σ (f' + 1) t' .null = .ok .none := by simp only [de, hg']
        have hback : de x σ (f' + 1) t' w = .ok xv := by
          split at h1
          · cases h1; exact hrt .null .none w hnull h2
          · exact hrt v xv w h1 h2
        split
        · rw [hnull] at hback; exact hback
        · exact hback
      next hne =>
        -- the inner type never serialises to `null`
        have hnn : nonNullB σ (σ.entries.length + 1) t' = true := by simpa only [entryOkB] using hok
        split at h1
        · cases h1; cases h2; rfl
        · split at h1
          · exact (hne _ _ _ (by assumption)).elim
          · split at h1
            next a hd =>
              cases h1
              simp only at h2
              have hback := hrt v a w hd h2
              have hwn := se_nonnull σ _ t' hnn f a w h2
              split
              · exact absurd rfl hwn
              · simp only [hback]
            next => cases h1
    | map k vt =>
      have hrt := hA vt (hch vt (by simp [childrenOf]))
      obtain ⟨ed', im', hgk⟩ : ∃ ed' im', σ.get k = some ⟨.string, ed', im'⟩ := by
        simp only [entryOkB] at hok
        split at hok
        next ed' im' hc => exact ⟨ed', im', hc⟩
        next => cases hok
      simp only at h1 h2 ⊢
      split at h1
      next kvs =>
        split at h1
        next es hm =>
          cases h1
          simp only at h2
          split at h2
          next es' hs =>
            cases h2
            simp only
            generalize hmm : es.foldl (fun acc e => insertKv e.1 e.2 acc) [] = m at hs ⊢
            have hsorted : SortedKv m := hmm ▸ foldl_insertKv_sorted es [] List.Pairwise.nil
            -- the entries written read back as those of `m`, which is sorted: inserting them one by one gives `m`
            rw [mapM'_back hs ?_]
            · have := foldl_insertKv_id m [] (by simpa using hsorted)
              simp only [List.nil_append] at this
              simp only [this]
            · intro b hb c hc
              split at hc
              next j hj =>
                cases hc
                have hbes : b ∈ es := (foldl_insertKv_mem es [] b (hmm ▸ hb)).resolve_right List.not_mem_nil
                obtain ⟨kv, _, hkv⟩ := WireEq.mapM'_ok_mem hm b hbes
                have hvb : de x σ f vt kv.2 = .ok b.2 := by split at hkv <;> cases hkv <;> assumption
                obtain ⟨f', rfl⟩ : ∃ f', f = f' + 1 := by
                  cases f with
                  | zero => cases hj
                  | succ f' => exact ⟨f', rfl⟩
                have hkey : de x σ (f' + 1) k (.str b.1) = .ok (.str b.1) := by simp only [de, hgk]
                simp only [hkey, hrt kv.2 b.2 j hvb hj]
              next => cases hc
          next => cases h2
        next => cases h1
      next => cases h1
    | enum n tag vs deny d bes =>
      simp only [entryOkB, Bool.and_eq_true] at hok
      obtain ⟨⟨hnd, htag⟩, hvs⟩ := hok
      have hvar : ∀ {i : Nat} {vr : Variant}, vs[i]? = some vr →
          variantOkB σ tag vr = true ∧ (∀ c ∈ idsOfD vr.details, c ∈ S) ∧ detailsOk σ vr.details := by
        intro i vr hi
        have hm := List.mem_of_getElem? hi
        have hvo := List.all_eq_true.mp hvs vr hm
        refine ⟨hvo, fun c hc => hch c ?_, ?_⟩
        · -- `idsOfD vr.details` is `variantIds vr` by unfolding both
          exact List.mem_flatten.mpr ⟨variantIds vr, List.mem_map_of_mem hm, hc⟩
        · unfold variantOkB at hvo
          unfold detailsOk
          cases hd : vr.details with
          | struct ps =>
            -- `variantOkB` is `fieldsOkB σ ps && …` here
            rw [hd] at hvo
            exact (Bool.and_eq_true _ _ ▸ hvo).1
          | _ => trivial
      cases tag with
      | untagged => simp at htag
      | external =>
        simp only at h1 h2 ⊢
        split at h1
        next s0 =>
          split at h1
          next => cases h1
          next i hfi =>
            split at h1
            next raw ident hvi =>
              cases h1
              simp only [hvi] at h2
              cases h2
              simp only [findIdx_nodup hnd hvi, hvi]
            next => cases h1
        next k0 body rest =>
          split at h1
          next => cases h1
          next =>
            split at h1
            next => cases h1
            next i hfi =>
              split at h1
              next vr hvi =>
                split at h1
                next p hb =>
                  cases h1
                  obtain ⟨hvo, hin, hdo⟩ := hvar hvi
                  simp only [hvi] at h2
                  split at h2
                  next hsimple =>
                    -- `{"V": null}` for a data-less variant: written back as the string
                    cases h2
                    obtain ⟨raw, ident, det'⟩ := vr
                    obtain rfl : det' = .simple := hsimple
                    obtain rfl : p = .unit := by
                      cases f with
                      | zero => cases hb
                      | succ f' =>
                        simp only [deVariantBody] at hb
                        split at hb <;> cases hb
                        rfl
                    simp only [findIdx_nodup hnd hvi, hvi]
                  next =>
                    split at h2
                    next b hsb =>
                      cases h2
                      simp only [List.all_nil, Bool.not_true, Bool.false_eq_true, if_false, findIdx_nodup hnd hvi, hvi,
                        hV vr.details deny true true body p b hin hdo hb hsb]
                    next => cases h2
                next => cases h1
              next => cases h1
        next => cases h1
      | internal tg =>
        simp only at h1 h2 ⊢
        split at h1
        next kvs =>
          split at h1
          next s0 hl =>
            split at h1
            next => cases h1
            next i hfi =>
              split at h1
              next raw ident hvi =>
                cases h1
                simp only [hvi] at h2
                cases h2
                simp only [Json.lookup, if_true, findIdx_nodup hnd hvi, hvi]
              next raw ident ps hvi =>
                split at h1
                next p hds =>
                  cases h1
                  obtain ⟨hvo, hin, hdo⟩ := hvar hvi
                  obtain ⟨fs, rfl⟩ := deStruct_shape x σ hds
                  simp only [hvi] at h2
                  split at h2
                  next es hs =>
                    cases h2
                    -- the tag is not among the members, so erasing it gives the members back
                    have hkeys : ∀ kv ∈ es, kv.1 ≠ tg := by
                      intro kv hkv
                      simp only [variantOkB, Bool.and_eq_true] at hvo
                      obtain ⟨q, hq, hqw⟩ := seStruct_keys σ (fieldsOk_unpack σ hvo.1).1 hs kv hkv
                      have := List.all_eq_true.mp hvo.2 q hq
                      rw [← hqw]; simpa using this
                    have herase : Json.erase ((tg, Json.str (Variant.wire ⟨raw, ident, .struct ps⟩)) :: es) tg = es := by
                      simp only [Json.erase, List.filter, ne_eq, not_true_eq_false, decide_false]
                      exact Json.erase_id hkeys
                    simp only [Json.lookup, if_true, findIdx_nodup hnd hvi, hvi, herase,
                      hS ps deny _ fs es (fun q hq => hin q.ty (List.mem_map_of_mem hq))
                        (by simp [show fieldsOkB σ ps = true from hdo]) hds hs]
                  next => cases h2
                next => cases h1
              next raw ident t' hvi =>
                have := (hvar hvi).1
                simp [variantOkB] at this
              next => cases h1
          next => cases h1
        next => cases h1
        next => cases h1
      | adjacent tg ct =>
        have htc : tg ≠ ct := by simpa using htag
        have hct : ct ≠ tg := fun h => htc h.symm
        simp only at h1 h2 ⊢
        split at h1
        next kvs =>
          split at h1
          next => cases h1
          next =>
            split at h1
            next s0 hl =>
              split at h1
              next => cases h1
              next i hfi =>
                obtain ⟨vr, hvi, _⟩ := findIdx_get hfi
                obtain ⟨hvo, hin, hdo⟩ := hvar hvi
                obtain ⟨raw, ident, det'⟩ := vr
                have hden1 : ∀ s : String, (deny && [(tg, Json.str s)].any
                    (fun kv => decide (kv.1 ≠ tg) && decide (kv.1 ≠ ct))) = false := by simp
                have hden2 : ∀ (s : String) (b : Json), (deny && [(tg, Json.str s), (ct, b)].any
                    (fun kv => decide (kv.1 ≠ tg) && decide (kv.1 ≠ ct))) = false := by simp
                -- without content only a data-less variant is read (`variantOkB` excludes an option-like `item`)
                have hcontent : det' = .simple ∨ ∃ body, Json.lookup kvs ct = some body := by
                  cases hlc : Json.lookup kvs ct with
                  | some body => exact Or.inr ⟨body, rfl⟩
                  | none =>
                    cases det' with
                    | simple => exact Or.inl rfl
                    | item t' =>
                      simp only [variantOkB, Bool.not_eq_true'] at hvo
                      simp only [hvi, hlc, hvo, Bool.false_eq_true, if_false] at h1
                      cases h1
                    | tuple _ | struct _ => simp only [hvi, hlc] at h1; cases h1
                cases det' with
                | simple =>
                  obtain rfl : xv = .variant i .unit := by
                    cases hlc : Json.lookup kvs ct with
                    | none => simp only [hvi, hlc] at h1; cases h1; rfl
                    | some jc => cases jc <;> simp only [hvi, hlc] at h1 <;> cases h1 <;> rfl
                  simp only [hvi] at h2
                  cases h2
                  simp only [hden1, Bool.false_eq_true, if_false, Json.lookup, if_true, htc, findIdx_nodup hnd hvi, hvi]
                | item _ | tuple _ | struct _ =>
                  obtain ⟨body, hlc⟩ := hcontent.resolve_left nofun
                  simp only [hvi, hlc] at h1
                  split at h1
                  next p hb =>
                    cases h1
                    simp only [hvi] at h2
                    split at h2
                    next b hsb =>
                      cases h2
                      simp only [hden2, Bool.false_eq_true, if_false, Json.lookup, if_true, hct, htc,
                        findIdx_nodup hnd hvi, hvi, hV _ deny false false body p b hin hdo hb hsb]
                    next => cases h2
                  next => cases h1
            next => cases h1
        next => cases h1
        next => cases h1

/-- **C03 (model level): what was written reads back as the same value** — for every type of a
    reference-closed set of well-formed entries, every document and every fuel. -/
theorem de_se_de (hcl : closedOkB σ S = true) :
    ∀ (f : Nat), Art x σ S f ∧ Srt x σ S f ∧ Vrt x σ S f := by
  intro f
  induction f with
  | zero =>
    refine ⟨?_, ?_, ?_⟩
    · intro t _ v xv w h1; simp [de] at h1
    · intro ps deny v fs es _ _ h1; simp [deStruct] at h1
    · intro d deny sq sq' v p w _ _ h1; simp [deVariantBody] at h1
  | succ f ih =>
    obtain ⟨hA, hS, hV⟩ := ih
    exact ⟨art_step x σ S hcl hA hS hV, srt_step x σ S hA, vrt_step x σ S hA hS⟩

theorem roundtrip_value (hcl : closedOkB σ S = true) {t : Id} (ht : t ∈ S) (f : Nat) (v : Json) (xv : Val) (w : Json)
    (h1 : de x σ f t v = .ok xv) (h2 : se σ f t xv = .ok w) : de x σ f t w = .ok xv :=
  (de_se_de x σ S hcl f).1 t ht v xv w h1 h2

/-- **C03: the round-tripped document is a fixed point of a further round trip**:
    `w = to_value(from_value(v))` ⇒ `to_value(from_value(w)) = w`. -/
theorem rt_fixed_point (hcl : closedOkB σ S = true) {t : Id} (ht : t ∈ S) (f : Nat) (v : Json) (xv : Val) (w : Json)
    (h1 : de x σ f t v = .ok xv) (h2 : se σ f t xv = .ok w) :
    ∃ xv', de x σ f t w = .ok xv' ∧ se σ f t xv' = .ok w :=
  ⟨xv, roundtrip_value x σ S hcl ht f v xv w h1 h2, h2⟩

/-! `closedOkB` can be met: a skipped optional member, an option of a never-`null` type, a map, an adjacently tagged
    enum. The theorems are not instantiated here. -/
def exSpace : Space := { entries := [
  (1, ⟨.struct "R" [⟨"a", .none, .required, 2⟩, ⟨"o", .rename "O-o", .optional, 3⟩, ⟨"m", .none, .optional, 4⟩, ⟨"e", .none, .required, 6⟩] true none, [], []⟩),
  (2, ⟨.string, [], []⟩),
  (3, ⟨.option 5, [], []⟩),
  (4, ⟨.map 2 5, [], []⟩),
  (5, ⟨.integer "i64", [], []⟩),
  (6, ⟨.enum "E" (.adjacent "t" "c") [⟨"u", "U", .simple⟩, ⟨"s", "S", .struct [⟨"p", .none, .required, 5⟩]⟩] false none [], [], []⟩)] }

example : closedOkB exSpace [1, 2, 3, 4, 5, 6] = true := by decide
example : de ⟨fun _ _ => true⟩ exSpace 9 1
    (.obj [("a", .str "x"), ("e", .obj [("c", .obj [("p", .int 3)]), ("t", .str "s")]), ("m", .obj [("k", .int 1)])]) =
    .ok (.struct [("a", .str "x"), ("o", .none), ("m", .map [("k", .int 1)]), ("e", .variant 1 (.struct [("p", .int 3)]))]) := by
  rfl
example : se exSpace 9 1 (.struct [("a", .str "x"), ("o", .none), ("m", .map [("k", .int 1)]), ("e", .variant 1 (.struct [("p", .int 3)]))]) =
    .ok (.obj [("a", .str "x"), ("m", .obj [("k", .int 1)]), ("e", .obj [("t", .str "s"), ("c", .obj [("p", .int 3)])])]) := by
  rfl

end TypifyModel.C03
