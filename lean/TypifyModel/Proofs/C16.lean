import TypifyModel.Proofs.Lemmas.SpaceStable
import TypifyModel.Proofs.Lemmas.SpaceNames
import TypifyModel.Proofs.Lemmas.SpaceBatch
/-! # C16 — the type space stays consistent across any history of API calls

Theorems about `Space.run` / `Space.step` (the model of `TypeSpace::add_ref_types`,
`add_root_schema`, `add_type_with_name` over the schema fragment `Space.Sch`, tied to the code by the
correspondence slice `c16` with exact ids), for ALL histories, all fuels, no bound on length:

* `inv_init`, `inv_step`, `inv_run` — the invariant `Space.Inv` (entries and the ids they mention are
  below `next_id`; `type_to_id` maps a structure to an id holding that structure; `name_to_id` maps a
  name to an id holding an entry of that name; `ref_to_id` maps below `next_id`).
* `frame_acyclic`, `frame_run`, `returned_stable` — a successful call leaves every entry below the old
  `next_id` exactly as it was; hence an id a call returned, and everything reachable from it, keeps
  its entry (name, structure, and therefore identifier) through all later calls.  "acyclic": the
  model covers batches whose by-value reference graph has no cycle (on the others it answers
  `unsupported`; `break_cycles` is the identity on the covered ones, C07 `break_minimal`).
* `readd` — `add_type_with_name` of the same schema with the same hint a second time returns the
  same id and leaves the state unchanged.
* `no_dup_defs_partial` — under `HistOK` (every batch satisfies `DistinctBatches` and
  `NoNameCollision`) the named entries have pairwise distinct names.  The unconditional statement
  `no_dup_defs_full` is FALSE on the current tree: `Proofs/C16Findings.lean`.
* `split_inv` — two independent batches give the same set of named definitions (name + structure
  with names in place of ids) whether they are added as one batch, as two, or in the other order.

Definitions used in the statements (`Proofs/Lemmas/`): `SpaceInv`: `Inv`; `SpaceNames`: `NameInj`,
`NoDupDefs`, `DistinctBatches`, `NoNameCollision`; `SpaceDenote`: `SameDefs`, `IdIso`, `RefNamed`;
`SpaceBatch`: `batchExpected`, `rnR`, `runBatches`, `BatchesOK`, `namePi`, `Shaped`. -/
set_option autoImplicit false
namespace TypifyModel.C16
open TypifyModel TypifyModel.Space
open TypifyModel.Names (Str)

/-- the definitions a call hands to `add_ref_types_impl` -/
def callDefs : Call → List (RefKey × Sch)
  | .refTypes defs => defKeys defs
  | .rootSchema root defs => rootDefs root defs
  | .typeWithName _ _ => []

theorem step_ok {fuel : Nat} {c : Call} {σ σ' : State} {r : Option Nat}
    (h : step fuel c σ = .ok (r, σ')) :
    ((∀ s hint, c ≠ .typeWithName s hint) ∧ addRefTypesImpl fuel (callDefs c) σ = .ok σ' ∧
      ∀ id, r = some id → alookup σ'.refToId .root = some id) ∨
    (∃ s hint id, c = .typeWithName s hint ∧ addTypeWithName fuel s hint σ = .ok (id, σ') ∧ r = some id) := by
  cases c with
  | refTypes defs =>
    simp only [step, addRefTypes] at h
    split at h
    · cases h
    · rename_i σ1 h1
      obtain ⟨rfl, rfl⟩ := Prod.mk.inj (R.ok.inj h)
      exact Or.inl ⟨fun _ _ hc => (nomatch hc), h1, fun _ hr => nomatch hr⟩
  | rootSchema root defs =>
    simp only [step, addRootSchema] at h
    split at h
    · cases h
    · rename_i σ1 h1
      obtain ⟨rfl, rfl⟩ := Prod.mk.inj (R.ok.inj h)
      refine Or.inl ⟨fun _ _ hc => (nomatch hc), h1, fun id hr => ?_⟩
      split at hr
      · exact hr
      · cases hr
  | typeWithName s hint =>
    simp only [step] at h
    split at h
    · cases h
    · rename_i id σ1 h1
      obtain ⟨rfl, rfl⟩ := Prod.mk.inj (R.ok.inj h)
      exact Or.inr ⟨s, hint, id, rfl, h1, rfl⟩

theorem run_cons {fuel : Nat} {c : Call} {cs : List Call} {σ σ' : State} {rs : List (Option Nat)}
    (h : run fuel (c :: cs) σ = .ok (σ', rs)) :
    ∃ r σ1 rs', step fuel c σ = .ok (r, σ1) ∧ run fuel cs σ1 = .ok (σ', rs') ∧ rs = r :: rs' := by
  simp only [run] at h
  split at h
  · cases h
  · rename_i r σ1 h1
    split at h
    · cases h
    · rename_i σ2 rs' h2
      obtain ⟨rfl, rfl⟩ := Prod.mk.inj (R.ok.inj h)
      exact ⟨r, σ1, rs', h1, h2, rfl⟩

theorem run_induct {fuel : Nat} {P : List Call → State → Prop}
    (hstep : ∀ c cs σ r σ1, P (c :: cs) σ → step fuel c σ = .ok (r, σ1) → P cs σ1) :
    ∀ (cs : List Call) (σ σ' : State) (rs : List (Option Nat)),
      run fuel cs σ = .ok (σ', rs) → P cs σ → P [] σ' := by
  intro cs
  induction cs with
  | nil =>
    intro σ σ' rs h hp
    obtain ⟨rfl, _⟩ := Prod.mk.inj (R.ok.inj h)
    exact hp
  | cons c cs ih =>
    intro σ σ' rs h hp
    obtain ⟨r, σ1, rs', h1, h2, _⟩ := run_cons h
    exact ih _ _ _ h2 (hstep c cs σ r σ1 hp h1)

theorem inv_init : Inv Space.init where
  entry_lt := fun i e h => by simp [State.entry, Space.init, alookup] at h
  child_lt := fun i e h => by simp [State.entry, Space.init, alookup] at h
  type_ok := fun d i h => by simp [Space.init, alookup] at h
  name_ok := fun n i h => by simp [Space.init, alookup] at h
  ref_lt := fun k i h => by simp [Space.init, alookup] at h

theorem step_inv {fuel : Nat} {c : Call} {σ σ' : State} {r : Option Nat}
    (h : step fuel c σ = .ok (r, σ')) (hi : Inv σ) : Inv σ' ∧ ∀ id, r = some id → id < σ'.nextId := by
  rcases step_ok h with ⟨_, h1, hr⟩ | ⟨s, hint, id, rfl, h1, rfl⟩
  · have i1 := addRefTypesImpl_inv h1 hi
    exact ⟨i1, fun id hid => i1.ref_lt _ _ (hr id hid)⟩
  · obtain ⟨i1, hlt⟩ := addTypeWithName_inv h1 hi
    exact ⟨i1, fun _ hid => by cases hid; exact hlt⟩

theorem inv_step {fuel : Nat} {c : Call} {σ σ' : State} {r : Option Nat}
    (h : step fuel c σ = .ok (r, σ')) (hi : Inv σ) : Inv σ' := (step_inv h hi).1

/-- every reachable state satisfies the invariant -/
theorem inv_run {fuel : Nat} : ∀ (cs : List Call) (σ σ' : State) (rs : List (Option Nat)),
    run fuel cs σ = .ok (σ', rs) → Inv σ → Inv σ' :=
  run_induct (P := fun _ σ => Inv σ) (fun _ _ _ _ _ hi h => inv_step h hi)

/-- **Frame.** A successful call changes no entry below the `next_id` it started from. -/
theorem frame_acyclic {fuel : Nat} {c : Call} {σ σ' : State} {r : Option Nat}
    (h : step fuel c σ = .ok (r, σ')) :
    σ.nextId ≤ σ'.nextId ∧ ∀ i, i < σ.nextId → σ'.entry i = σ.entry i := by
  rcases step_ok h with ⟨_, h1, _⟩ | ⟨s, hint, id, rfl, h1, rfl⟩
  · exact addRefTypesImpl_frame h1
  · exact addTypeWithName_frame h1

theorem frame_run {fuel : Nat} : ∀ (cs : List Call) (σ σ' : State) (rs : List (Option Nat)),
    run fuel cs σ = .ok (σ', rs) →
    σ.nextId ≤ σ'.nextId ∧ ∀ i, i < σ.nextId → σ'.entry i = σ.entry i := by
  intro cs σ σ' rs h
  refine run_induct (fuel := fuel)
    (P := fun _ τ => σ.nextId ≤ τ.nextId ∧ ∀ i, i < σ.nextId → τ.entry i = σ.entry i)
    (fun c cs τ r τ1 hp h1 => ?_) cs σ σ' rs h ⟨Nat.le_refl _, fun _ _ => rfl⟩
  obtain ⟨n1, f1⟩ := frame_acyclic h1
  exact ⟨Nat.le_trans hp.1 n1, fun i hi => by rw [f1 i (Nat.lt_of_lt_of_le hi hp.1), hp.2 i hi]⟩

/-- `j` is `i` or is mentioned (transitively) by the entry of `i` -/
inductive Reach (σ : State) : Nat → Nat → Prop
  | refl (i : Nat) : Reach σ i i
  | step {i j k : Nat} {e : Details} : Reach σ i j → σ.entry j = some e → k ∈ e.ids → Reach σ i k

theorem reach_lt {σ : State} (hi : Inv σ) {i j : Nat} (h : Reach σ i j) (hlt : i < σ.nextId) :
    j < σ.nextId := by
  induction h with
  | refl => exact hlt
  | step _ he hk _ => exact hi.child_lt _ _ he _ hk

/-- **Returned ids are stable.** The id a call returned, and every id reachable from it, resolves to
    the same entry — same name, same structure, hence same identifier — after any later calls. -/
theorem returned_stable {fuel : Nat} {c : Call} {cs : List Call} {σ σ1 σ2 : State} {id : Nat}
    {rs : List (Option Nat)} (hi : Inv σ) (h1 : step fuel c σ = .ok (some id, σ1))
    (h2 : run fuel cs σ1 = .ok (σ2, rs)) :
    ∀ j, Reach σ1 id j → σ2.entry j = σ1.entry j := by
  intro j hj
  obtain ⟨i1, hlt⟩ := step_inv h1 hi
  exact (frame_run _ _ _ _ h2).2 j (reach_lt i1 hj (hlt id rfl))

/-- **Re-adding.** `add_type_with_name` with the same schema and hint a second time returns the
    same id and leaves the state as it is: no id is allocated, no definition is added. -/
theorem readd {fuel : Nat} {s : Sch} {hint : Option Str} {σ σ1 : State} {id : Nat} (hi : Inv σ)
    (h : addTypeWithName fuel s hint σ = .ok (id, σ1)) :
    addTypeWithName fuel s hint σ1 = .ok (id, σ1) := by
  obtain ⟨e, σc, σm, hc, hp, hf, _⟩ := addTypeWithName_ok h
  -- the final state answers every index lookup as the state after `assign_type` did
  have sim_a : Sim (assignType e σc).2 σ1 := by rw [hp]; exact hf.sim
  have c2 := convertLite_stable _ _ _ _ _ _ hc hi σ1 (Sim.of_ext (assignType_ext e σc) sim_a)
  have a2 := assignType_stable sim_a
  rw [hp] at a2
  simp only [addTypeWithName, idForSchema, c2, a2, finalizeFrom, Nat.sub_self]
  rfl

/-- the same at the level of histories: a repeated `add_type_with_name` call is a no-op returning
    the same id -/
theorem readd_step {fuel : Nat} {s : Sch} {hint : Option Str} {σ σ1 : State} {r : Option Nat} (hi : Inv σ)
    (h : step fuel (.typeWithName s hint) σ = .ok (r, σ1)) :
    step fuel (.typeWithName s hint) σ1 = .ok (r, σ1) := by
  rcases step_ok h with ⟨hne, _⟩ | ⟨_, _, id, hc, h1, rfl⟩
  · exact absurd rfl (hne s hint)
  · cases hc
    simp only [step, readd hi h1]

/-- the two named hypotheses for one call, evaluated in the state the call starts from -/
def CallOK (fuel : Nat) (c : Call) (σ : State) : Prop :=
  DistinctBatches (callDefs c) σ ∧ NoNameCollision fuel (callDefs c)

instance (fuel : Nat) (c : Call) (σ : State) : Decidable (CallOK fuel c σ) := by
  unfold CallOK; infer_instance

/-- every call of the history satisfies `CallOK` in the state it is made in -/
def HistOK (fuel : Nat) : List Call → State → Prop
  | [], _ => True
  | c :: cs, σ => CallOK fuel c σ ∧ ∀ r σ', step fuel c σ = .ok (r, σ') → HistOK fuel cs σ'

instance instDecHistOK (fuel : Nat) : (cs : List Call) → (σ : State) → Decidable (HistOK fuel cs σ)
  | [], _ => isTrue trivial
  | c :: cs, σ =>
    match hs : step fuel c σ with
    | .fail f => decidable_of_iff (CallOK fuel c σ) (by
        simp only [HistOK, hs]
        exact ⟨fun h => ⟨h, fun _ _ h' => by cases h'⟩, fun h => h.1⟩)
    | .ok (r, σ') =>
      have := instDecHistOK fuel cs σ'
      decidable_of_iff (CallOK fuel c σ ∧ HistOK fuel cs σ') (by
        simp only [HistOK, hs]
        exact ⟨fun h => ⟨h.1, fun r0 σ0 h' => by
            simp only [R.ok.injEq, Prod.mk.injEq] at h'; rw [← h'.2]; exact h.2⟩,
          fun h => ⟨h.1, h.2 r σ' rfl⟩⟩)

/-- full statement (FALSE on the current tree, see `Proofs/C16Findings.lean`) -/
def no_dup_defs_full : Prop :=
  ∀ (fuel : Nat) (cs : List Call) (σ : State) (rs : List (Option Nat)),
    run fuel cs Space.init = .ok (σ, rs) → NoDupDefs σ

theorem step_nameInj {fuel : Nat} {c : Call} {σ σ' : State} {r : Option Nat}
    (h : step fuel c σ = .ok (r, σ')) (hi : Inv σ) (hinj : NameInj σ) (hok : CallOK fuel c σ) :
    NameInj σ' := by
  rcases step_ok h with ⟨_, h1, _⟩ | ⟨s, hint, id, rfl, h1, rfl⟩
  · exact addRefTypesImpl_nameInj h1 hi hinj hok.1 hok.2
  · exact addTypeWithName_nameInj h1 hi hinj

theorem run_nameInj {fuel : Nat} : ∀ (cs : List Call) (σ σ' : State) (rs : List (Option Nat)),
    run fuel cs σ = .ok (σ', rs) → Inv σ → NameInj σ → HistOK fuel cs σ → NameInj σ' := by
  intro cs σ σ' rs h hi hinj hok
  exact (run_induct (fuel := fuel) (P := fun cs σ => Inv σ ∧ NameInj σ ∧ HistOK fuel cs σ)
    (fun c cs σ r σ1 hp h1 =>
      ⟨inv_step h1 hp.1, step_nameInj h1 hp.1 hp.2.1 hp.2.2.1, hp.2.2.2 r σ1 h1⟩)
    cs σ σ' rs h ⟨hi, hinj, hok⟩).2.1

/-- **No duplicate definitions (partial).** If every batch of the history brings definition names
    that are new to the space (`DistinctBatches`), pairwise distinct and not taken by one of the
    batch's own inline types (`NoNameCollision`), the named entries of the final state have pairwise
    distinct names — so the rendered output has no two definitions of one name. -/
theorem no_dup_defs_partial {fuel : Nat} {cs : List Call} {σ : State} {rs : List (Option Nat)}
    (h : run fuel cs Space.init = .ok (σ, rs)) (hok : HistOK fuel cs Space.init) : NoDupDefs σ :=
  (run_nameInj cs _ _ _ h inv_init nameInj_init hok).noDup

/-- `add_type_with_name` alone never duplicates a name, whatever the hints and titles -/
theorem no_dup_defs_types {fuel : Nat} {s : Sch} {hint : Option Str} {σ σ' : State} {id : Nat}
    (h : addTypeWithName fuel s hint σ = .ok (id, σ')) (hi : Inv σ) (hinj : NameInj σ) : NoDupDefs σ' :=
  (addTypeWithName_nameInj h hi hinj).noDup

/-- a name has one structure in the denotation -/
def Functional (E : List (Str × Shape)) : Prop := ∀ x ∈ E, ∀ y ∈ E, x.1 = y.1 → x.2 = y.2

instance (E : List (Str × Shape)) : Decidable (Functional E) := by unfold Functional; infer_instance

theorem mem_batchExpected_congr {rn : RefKey → Option Str} {f : Nat} {l1 l2 : List (Str × Sch)}
    (h : ∀ d, d ∈ l1 ↔ d ∈ l2) (x : Str × Shape) :
    x ∈ batchExpected rn f (defKeys l1) ↔ x ∈ batchExpected rn f (defKeys l2) := by
  unfold batchExpected defKeys
  simp only [List.mem_flatMap, List.mem_map]
  constructor
  · rintro ⟨d, ⟨p, hp, rfl⟩, hx⟩; exact ⟨_, ⟨p, (h p).mp hp, rfl⟩, hx⟩
  · rintro ⟨d, ⟨p, hp, rfl⟩, hx⟩; exact ⟨_, ⟨p, (h p).mpr hp, rfl⟩, hx⟩

/-- **Split / permutation invariance, general form.** Two sequences of `add_ref_types` calls that
    add the same definitions — cut into any number of batches, in any order — to the same space
    `σ0`, both succeeding (so no batch refers to a definition added later) and both satisfying
    `DistinctBatches` / `NoNameCollision` at every batch, end in states with the same set of named
    definitions: the same names with the same structures (ids replaced by names).  `Functional`: the
    schemas denote one structure per name (no two different inline types compete for a name). -/
theorem split_inv_general {fuel : Nat} {r : Option Str} {bs1 bs2 : List (List (Str × Sch))}
    {σ0 F1 F2 : State} (hi : Inv σ0) (hinj : NameInj σ0) (hr : RefNamed (rnR r) σ0.refToId σ0)
    (h1 : runBatches fuel bs1 σ0 = .ok F1) (h2 : runBatches fuel bs2 σ0 = .ok F2)
    (ok1 : BatchesOK fuel bs1 σ0) (ok2 : BatchesOK fuel bs2 σ0)
    (hperm : ∀ d, d ∈ bs1.flatten ↔ d ∈ bs2.flatten)
    (hfun : Functional (batchExpected (rnR r) fuel (defKeys bs1.flatten))) : SameDefs F1 F2 :=
  sameDefs_of_runChar hi (runChar_of_run hi hinj hr h1 ok1) (runChar_of_run hi hinj hr h2 ok2)
    (mem_batchExpected_congr hperm) (fun _ _ _ ha hb => hfun _ ha _ hb rfl)

/-- **Split / permutation invariance.** Two sets of definitions `A`, `B` added to `σ0` as two batches
    in either order, or as one batch, give the same set of named definitions. -/
theorem split_inv {fuel : Nat} {r : Option Str} {A B : List (Str × Sch)} {σ0 σAB σBA σ1 : State}
    (hi : Inv σ0) (hinj : NameInj σ0) (hr : RefNamed (rnR r) σ0.refToId σ0)
    (hAB : runBatches fuel [A, B] σ0 = .ok σAB) (hBA : runBatches fuel [B, A] σ0 = .ok σBA)
    (h1 : runBatches fuel [A ++ B] σ0 = .ok σ1)
    (okAB : BatchesOK fuel [A, B] σ0) (okBA : BatchesOK fuel [B, A] σ0) (ok1 : BatchesOK fuel [A ++ B] σ0)
    (hfun : Functional (batchExpected (rnR r) fuel (defKeys (A ++ B)))) :
    SameDefs σAB σBA ∧ SameDefs σAB σ1 := by
  have hf : Functional (batchExpected (rnR r) fuel (defKeys [A, B].flatten)) := by simpa using hfun
  constructor
  · exact split_inv_general hi hinj hr hAB hBA okAB okBA (fun d => by simp [or_comm]) hf
  · exact split_inv_general hi hinj hr hAB h1 okAB ok1 (fun d => by simp) hf

/-- **The id-isomorphism, explicitly.** Under the hypotheses of `split_inv_general` and when every
    named entry of the base state has a structure (`Shaped`; true of the empty space), the renaming
    `namePi F1 F2` of ids maps every named entry of `F1` to an entry of `F2` with the same name and the
    same structure, and every named entry of `F2` is hit. -/
theorem split_iso {fuel : Nat} {r : Option Str} {bs1 bs2 : List (List (Str × Sch))}
    {σ0 F1 F2 : State} (hi : Inv σ0) (hinj : NameInj σ0) (hr : RefNamed (rnR r) σ0.refToId σ0)
    (hsh : Shaped σ0)
    (h1 : runBatches fuel bs1 σ0 = .ok F1) (h2 : runBatches fuel bs2 σ0 = .ok F2)
    (ok1 : BatchesOK fuel bs1 σ0) (ok2 : BatchesOK fuel bs2 σ0)
    (hperm : ∀ d, d ∈ bs1.flatten ↔ d ∈ bs2.flatten)
    (hfun : Functional (batchExpected (rnR r) fuel (defKeys bs1.flatten))) :
    IdIso (namePi F1 F2) F1 F2 :=
  have c2 := runChar_of_run hi hinj hr h2 ok2
  idIso_of_sameDefs (split_inv_general hi hinj hr h1 h2 ok1 ok2 hperm hfun)
    (runChar_shaped hi hsh (runChar_of_run hi hinj hr h1 ok1)) (runChar_shaped hi hsh c2) c2.inj

theorem refNamed_init (rn : RefKey → Option Str) : RefNamed rn Space.init.refToId Space.init := by
  intro k t h; simp [Space.init, alookup] at h

/-- `runBatches` is `run` on `add_ref_types` calls -/
theorem run_refTypes {fuel : Nat} : ∀ (bs : List (List (Str × Sch))) (σ F : State),
    runBatches fuel bs σ = .ok F → ∃ rs, run fuel (bs.map Call.refTypes) σ = .ok (F, rs) := by
  intro bs
  induction bs with
  | nil => intro σ F h; simp only [runBatches, R.ok.injEq] at h; exact ⟨[], by simp [run, h]⟩
  | cons b bs ih =>
    intro σ F h
    simp only [runBatches] at h
    split at h
    · cases h
    · rename_i σ1 h1
      obtain ⟨rs, hrs⟩ := ih σ1 F h
      exact ⟨none :: rs, by simp [run, step, h1, hrs]⟩

/-! ## non-vacuity: the hypotheses of the theorems above are satisfiable by non-trivial inputs -/

def R.isOk {α : Type} : R α → Bool
  | .ok _ => true
  | .fail _ => false

/-- `A {x: String, y?: B}`, `B = enum {a, b}`; then `Vec<String>`; then an inline struct `T` twice -/
def exA : Sch :=
  .obj none [("x".toList, .str none), ("y".toList, .ref none (.defn "B".toList))] ["x".toList] false
def exB : Sch := .enumStr none ["a".toList, "b".toList]
def exT : Sch := .obj (some "T".toList) [("z".toList, .int none)] [] false
def exHist : List Call :=
  [.refTypes [("A".toList, exA), ("B".toList, exB)],
   .typeWithName (.arr none (.str none)) none,
   .typeWithName exT (some "hint".toList),
   .typeWithName exT (some "hint".toList)]

/-- two independent sets of definitions: `A {x, k: Kind}` with an inline enum, and `B = Vec<Item>`
    with an inline struct plus an alias `C = B` -/
def bA : List (Str × Sch) :=
  [("A".toList, .obj none [("x".toList, .str none),
      ("k".toList, .enumStr (some "Kind".toList) ["a".toList, "b".toList])] ["x".toList] false)]
def bB : List (Str × Sch) :=
  [("B".toList, .arr none (.obj (some "Item".toList) [("n".toList, .int none)] ["n".toList] false)),
   ("C".toList, .ref none (.defn "B".toList))]

/-- One evaluation for the six checks below: unpacking the keyword table of `Names.sanitize` is
    most of each, and the kernel does it once per declaration. -/
theorem nonvacuity :
    (R.isOk (run 5 exHist Space.init) = true ∧ HistOK 5 exHist Space.init ∧
      (match run 5 (exHist.take 3) Space.init, run 5 exHist Space.init with
        | .ok (σ3, r3), .ok (σ4, r4) => decide (σ3 = σ4) && r4 == r3 ++ [r3.getLast?.join]
        | _, _ => false) = true) ∧
    (R.isOk (runBatches 5 [bA, bB] Space.init) = true ∧ R.isOk (runBatches 5 [bB, bA] Space.init) = true
      ∧ R.isOk (runBatches 5 [bA ++ bB] Space.init) = true) ∧
    (BatchesOK 5 [bA, bB] Space.init ∧ BatchesOK 5 [bB, bA] Space.init
      ∧ BatchesOK 5 [bA ++ bB] Space.init) ∧
    Functional (batchExpected (rnR none) 5 (defKeys (bA ++ bB))) ∧
      (batchExpected (rnR none) 5 (defKeys (bA ++ bB))).length = 5 := by decide +kernel

set_option maxRecDepth 100000 in
/-- `inv_run`, `frame_run`, `returned_stable`, `readd_step` apply: the history runs (4 calls, 8 entries) -/
example : R.isOk (run 5 exHist Space.init) = true := nonvacuity.1.1

set_option maxRecDepth 100000 in
/-- `no_dup_defs_partial` applies: the history satisfies `HistOK` -/
example : HistOK 5 exHist Space.init := nonvacuity.1.2.1

set_option maxRecDepth 100000 in
/-- `readd`: the fourth call returns the id of the third and the states after them are equal -/
example : (match run 5 (exHist.take 3) Space.init, run 5 exHist Space.init with
    | .ok (σ3, r3), .ok (σ4, r4) => decide (σ3 = σ4) && r4 == r3 ++ [r3.getLast?.join]
    | _, _ => false) = true := nonvacuity.1.2.2

set_option maxRecDepth 100000 in
/-- `split_inv` applies to `bA`, `bB` from the empty space: all three arrangements succeed … -/
example : R.isOk (runBatches 5 [bA, bB] Space.init) = true ∧ R.isOk (runBatches 5 [bB, bA] Space.init) = true
    ∧ R.isOk (runBatches 5 [bA ++ bB] Space.init) = true := nonvacuity.2.1

set_option maxRecDepth 100000 in
/-- … satisfy the per-batch hypotheses … -/
example : BatchesOK 5 [bA, bB] Space.init ∧ BatchesOK 5 [bB, bA] Space.init
    ∧ BatchesOK 5 [bA ++ bB] Space.init := nonvacuity.2.2.1

set_option maxRecDepth 100000 in
/-- … and the denotation is functional (5 definitions: A, Kind, B, Item, C) -/
example : Functional (batchExpected (rnR none) 5 (defKeys (bA ++ bB))) ∧
    (batchExpected (rnR none) 5 (defKeys (bA ++ bB))).length = 5 := nonvacuity.2.2.2

end TypifyModel.C16
