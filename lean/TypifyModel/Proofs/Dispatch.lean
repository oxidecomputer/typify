import TypifyModel.Model.Dispatch
/-! The shape dispatch of `convert.rs` never reaches its final `todo!()` on the keyword combinations schemars emits.

    `Dispatch.step` is the model of one pass through the `match` of `convert_schema_object` (tied to the source by the M0
    correspondence `tvh_disp` vs `drv_disp` over the keyword lattice, where `Arm.todo` coincides with the panics of the real
    code). `Fragment` lists, keyword group by keyword group, what schemars 0.8 writes for serde-derivable Rust types and what the
    README documents: a bare reference; a lone `allOf` / `anyOf` / `oneOf` / `not`; a single `type` with the validation keywords
    of THAT type only (`string` also with `format` / `enum`, numbers with `format`); a nullable pair `[T, "null"]`; an
    enumeration without a type; the empty schema. Annotations (`title`, `description`, `default`, ..) and extensions are free. -/
namespace TypifyModel.Dispatch
open TypifyModel TypifyModel.Excl

/-- the keyword combinations of the supported fragment, one level deep -/
def Fragment (kvs : Kvs) : Prop :=
  let g := groupsOf kvs
  g.cn = false ∧
  (-- a bare reference
   (tyOf kvs = .none ∧ g = ⟨false, false, false, false, false, false, false, false, true⟩) ∨
   -- a lone combinator
   (tyOf kvs = .none ∧ g = ⟨false, false, false, true, false, false, false, false, false⟩) ∨
   -- strings: format, enumeration, string validation
   (tyOf kvs = .single .string ∧ g.sub = false ∧ g.rf = false ∧ g.num = false ∧ g.arr = false ∧ g.obj = false) ∨
   -- integers and numbers: format, number validation
   ((tyOf kvs = .single .integer ∨ tyOf kvs = .single .number) ∧ g.en = false ∧ g.sub = false ∧ g.rf = false ∧ g.str = false ∧
     g.arr = false ∧ g.obj = false) ∨
   -- booleans and null
   ((tyOf kvs = .single .boolean ∨ tyOf kvs = .single .null) ∧ g = ⟨false, false, false, false, false, false, false, false, false⟩) ∨
   -- arrays
   (tyOf kvs = .single .array ∧ g.fmt = false ∧ g.en = false ∧ g.sub = false ∧ g.rf = false ∧ g.num = false ∧ g.str = false ∧ g.obj = false) ∨
   -- objects
   (tyOf kvs = .single .object ∧ g.fmt = false ∧ g.en = false ∧ g.sub = false ∧ g.rf = false ∧ g.num = false ∧ g.str = false ∧ g.arr = false) ∨
   -- nullable pairs
   ((∃ t, t ≠ JT.null ∧ (tyOf kvs = .multi [t, .null] ∨ tyOf kvs = .multi [.null, t]))) ∨
   -- an enumeration without a type, the empty schema
   (tyOf kvs = .none ∧ g.fmt = false ∧ g.sub = false ∧ g.num = false ∧ g.str = false ∧ g.arr = false ∧ g.obj = false ∧ g.rf = false))

deriving instance DecidableEq for Ty

theorem isSingle_single (a b : JT) : isSingle (.single a) b = decide (a = b) := rfl
theorem isSingle_none (b : JT) : isSingle .none b = false := rfl

theorem soleArm_ok (kvs : Kvs) : soleArm kvs ≠ .todo ∧ soleArm kvs ≠ .malformed := by
  unfold soleArm; constructor <;> (split <;> simp)

/-- the `.multi` case of `step`'s inner `match ty` -/
def isMulti : Ty → Bool
  | .multi _ => true
  | _ => false

/-- the scrutinee of `step`'s second `match`: arm 0, which only a type list can take -/
def nullableStep (kvs : Kvs) : Ty → Option Step
  | .multi ts => armNullable kvs ts
  | _ => none

theorem step_eq (kvs : Kvs) (hb : tyOf kvs ≠ .bad) :
    step kvs = ((nullableStep kvs (tyOf kvs)).orElse fun _ =>
      armsTyped kvs (isSingle (tyOf kvs)) (isUntyped (tyOf kvs)) (isOne (tyOf kvs))).getD
        (armsRewrite kvs (tyOf kvs)) := by
  rw [step]
  generalize tyOf kvs = ty at hb ⊢
  cases ty with
  | bad => exact absurd rfl hb
  | multi ts =>
    dsimp only [nullableStep]
    cases armNullable kvs ts with
    | some s => rfl
    | none => cases armsTyped kvs (isSingle (.multi ts)) (isUntyped (.multi ts)) (isOne (.multi ts)) <;> rfl
  | none => dsimp only [nullableStep]; cases armsTyped kvs (isSingle .none) (isUntyped .none) (isOne .none) <;> rfl
  | single t =>
    dsimp only [nullableStep]
    cases armsTyped kvs (isSingle (.single t)) (isUntyped (.single t)) (isOne (.single t)) <;> rfl

/-- the `type` is no list and `a` is the first arm of the table whose guard holds -/
def TableArm (kvs : Kvs) (a : Arm) : Prop :=
  isMulti (tyOf kvs) = false ∧ tyOf kvs ≠ .bad ∧
    (typedArms kvs (isSingle (tyOf kvs)) (isUntyped (tyOf kvs)) (isOne (tyOf kvs))).find? (·.1) = some (true, a)

theorem TableArm.step {kvs : Kvs} {a : Arm} (h : TableArm kvs a) : step kvs = .done a := by
  have hn : nullableStep kvs (tyOf kvs) = none := by
    have := h.1
    generalize tyOf kvs = ty at this
    cases ty <;> first | rfl | cases this
  rw [step_eq kvs h.2.1, hn, armsTyped, h.2.2]; rfl

theorem TableArm.of_groups {kvs : Kvs} {ty : Ty} {g : Groups} (a : Arm) (hty : tyOf kvs = ty) (hg : groupsOf kvs = g)
    (hn : isMulti ty = false) (hb : ty ≠ .bad)
    (h : (typedArmsG g (soleArm kvs) (isSingle ty) (isUntyped ty) (isOne ty)).find? (·.1) = some (true, a)) :
    TableArm kvs a := by
  subst hty hg; exact ⟨hn, hb, h⟩

/-- a nullable pair goes to arm 0, every other schema of the fragment to an arm of the table, named case by case -/
theorem fragment_arm (kvs : Kvs) (h : Fragment kvs) :
    (∃ t, t ≠ JT.null ∧ (tyOf kvs = .multi [t, .null] ∨ tyOf kvs = .multi [.null, t])) ∨
      ∃ a, TableArm kvs a ∧ a ≠ .todo ∧ a ≠ .malformed := by
  unfold Fragment at h
  generalize hg : groupsOf kvs = g at h
  obtain ⟨fmt, en, cn, sub, num, str, arr, obj, rf⟩ := g
  simp only [Groups.mk.injEq] at h
  obtain ⟨rfl, h⟩ := h
  rcases h with h | h | h | h | h | h | h | h | h
  · obtain ⟨hty, rfl, rfl, -, rfl, rfl, rfl, rfl, rfl, rfl⟩ := h
    exact .inr ⟨_, .of_groups .reference hty hg rfl nofun rfl, nofun, nofun⟩
  · obtain ⟨hty, rfl, rfl, -, rfl, rfl, rfl, rfl, rfl, rfl⟩ := h
    exact .inr ⟨_, .of_groups (soleArm kvs) hty hg rfl nofun rfl, soleArm_ok kvs⟩
  · obtain ⟨hty, rfl, rfl, rfl, rfl, rfl⟩ := h
    cases en
    · exact .inr ⟨_, .of_groups .string hty hg rfl nofun rfl, nofun, nofun⟩
    · exact .inr ⟨_, .of_groups .enumString hty hg rfl nofun rfl, nofun, nofun⟩
  · obtain ⟨hty, rfl, rfl, rfl, rfl, rfl, rfl⟩ := h
    rcases hty with hty | hty
    · exact .inr ⟨_, .of_groups .integer hty hg rfl nofun rfl, nofun, nofun⟩
    · exact .inr ⟨_, .of_groups .number hty hg rfl nofun rfl, nofun, nofun⟩
  · obtain ⟨hty, rfl, rfl, -, rfl, rfl, rfl, rfl, rfl, rfl⟩ := h
    rcases hty with hty | hty
    · exact .inr ⟨_, .of_groups .boolean hty hg rfl nofun rfl, nofun, nofun⟩
    · exact .inr ⟨_, .of_groups .null hty hg rfl nofun rfl, nofun, nofun⟩
  · obtain ⟨hty, rfl, rfl, rfl, rfl, rfl, rfl, rfl⟩ := h
    cases arr
    · exact .inr ⟨_, .of_groups .arrayOfAny hty hg rfl nofun rfl, nofun, nofun⟩
    · exact .inr ⟨_, .of_groups .array hty hg rfl nofun rfl, nofun, nofun⟩
  · obtain ⟨hty, rfl, rfl, rfl, rfl, rfl, rfl, rfl⟩ := h
    exact .inr ⟨_, .of_groups .object hty hg rfl nofun rfl, nofun, nofun⟩
  · exact .inl h
  · obtain ⟨hty, rfl, rfl, rfl, rfl, rfl, rfl, rfl⟩ := h
    cases en
    · exact .inr ⟨_, .of_groups .permissive hty hg rfl nofun rfl, nofun, nofun⟩
    · exact .inr ⟨_, .of_groups .unknownEnum hty hg rfl nofun rfl, nofun, nofun⟩

/-- **the dispatch hands every schema object of the fragment to a conversion** (C01, "schemas inside the supported fragment
    are never rejected", at this dispatch; the conversions themselves are the subject of the other models) -/
theorem fragment_never_todo (kvs : Kvs) (h : Fragment kvs) :
    step kvs ≠ .done .todo ∧ step kvs ≠ .done .malformed ∧ ∀ k, step kvs ≠ .again k := by
  rcases fragment_arm kvs h with ⟨t, hne, hty⟩ | ⟨a, ha, h1, h2⟩
  · have hb : (t != JT.null) = true := by simpa using hne
    rcases hty with hty | hty <;> simp only [step, hty, armNullable] <;> cases onlyNullEnum kvs <;> simp [List.find?, hb]
  · rw [ha.step]
    exact ⟨fun e => h1 (Step.done.inj e), fun e => h2 (Step.done.inj e), nofun⟩

/-- the fragment is inhabited: a string with a format and a length bound, a nullable integer, a lone `oneOf` -/
example : Fragment [("format", .str "uuid"), ("maxLength", .int 40), ("type", .str "string")] :=
  ⟨by decide +kernel, .inr (.inr (.inl (by decide +kernel)))⟩
example : Fragment [("minimum", .int 0), ("type", .arr [.str "integer", .str "null"])] :=
  ⟨by decide +kernel, .inr (.inr (.inr (.inr (.inr (.inr (.inr (.inl ⟨.integer, by decide +kernel⟩)))))))⟩
example : Fragment [("oneOf", .arr [.obj [("type", .str "string")], .obj [("type", .str "null")]]), ("title", .str "T")] :=
  ⟨by decide +kernel, .inr (.inl (by decide +kernel))⟩

/-- **just outside the fragment the `todo!()` is reached**: ingestion panics on these (kernel-evaluated; the same five schemas
    panic in the real code, see the M0 lattice) -/
theorem todo_witnesses :
    resolve 4 (.obj [("format", .str "date")]) = .todo ∧
    resolve 4 (.obj [("minimum", .int 0)]) = .todo ∧
    resolve 4 (.obj [("format", .str "x"), ("type", .str "boolean")]) = .todo ∧
    resolve 4 (.obj [("maxLength", .int 3), ("minimum", .int 0)]) = .todo ∧
    resolve 4 (.obj [("enum", .arr [.str "a", .int 1]), ("type", .arr [.str "string", .str "integer"])]) = .todo := by
  decide +kernel

end TypifyModel.Dispatch
