import TypifyModel.Model.ConvertString
import TypifyModel.Model.Enc
import TypifyModel.Generated.StringFormats
/-! # `convert_string` establishes the relations of C02 and C05 for string schemas without a `format`

Checked under C10. For every string schema **without `format`** the entry typify makes
enforces exactly the schema's length and pattern constraints — `strEnc` (C05, `Enc.encD`'s string arms) and `strImplied`
(C02, `Conv.convD`'s string arms) both hold, for all keyword values. With a `format` the validation keywords are not
looked at: for a format no arm recognises the constraints are LOST (`convert_string_format_drops`, an observation
outside C05's quantifier: the format is not one of its enforced constructs), and a pattern compiled with `regress` always
sets `uses_regress` (C17's clause for this construct). -/
namespace TypifyModel.C05C
open TypifyModel TypifyModel.ConvertString TypifyModel.Generated TypifyModel.Enc TypifyModel.Conv

variable (patOk : String → Bool)

/-- **no format: the constraints of the schema are the constraints of the type** (both directions) -/
theorem convert_string_exact (s : StrSchema) (hf : s.fmt = none) :
    match (convertString stringFormats stringFormatFallback patOk s).out with
    | .plain => strEnc s.minLen s.maxLen s.pattern none none none = true ∧
                strImplied s.minLen s.maxLen s.pattern none none none = true
    | .constrained mx mn pat =>
      strEnc s.minLen s.maxLen s.pattern mx mn pat = true ∧ strImplied s.minLen s.maxLen s.pattern mx mn pat = true
    | .native _ _ => False
    | .invalidPattern => ∃ p, s.pattern = some p ∧ patOk p = false := by
  obtain ⟨fmt, mn, mx, pat⟩ := s
  simp only at hf; subst hf
  simp only [convertString]
  cases pat with
  | none => cases mn <;> cases mx <;> simp [strEnc, strImplied]
  | some p =>
    by_cases hp : patOk p = true
    · cases mn <;> cases mx <;> simp [strEnc, strImplied, hp]
    · have hp' : patOk p = false := by simpa using hp
      cases mn <;> cases mx <;> simp [hp']

/-- a pattern that typify compiles sets `uses_regress` (the check it emits calls `::regress::Regex`) -/
theorem convert_string_uses_regress (s : StrSchema) (mx mn : Option Nat) (p : String)
    (h : (convertString stringFormats stringFormatFallback patOk s).out = .constrained mx mn (some p)) :
    "regress" ∈ (convertString stringFormats stringFormatFallback patOk s).uses := by
  obtain ⟨fmt, smn, smx, pat⟩ := s
  cases fmt with
  | none =>
    simp only [convertString] at h ⊢
    cases pat with
    | none => cases smn <;> cases smx <;> simp at h
    | some q =>
      by_cases hq : patOk q = true
      · cases smn <;> cases smx <;> simp [hq]
      · have hq' : patOk q = false := by simpa using hq
        cases smn <;> cases smx <;> simp [hq'] at h
  | some f =>
    simp only [convertString] at h
    split at h <;> simp at h

/-- with a `format` the validation keywords are never consulted -/
theorem convert_string_format_ignores_validation (f : String) (a b : StrSchema) (ha : a.fmt = some f) (hb : b.fmt = some f) :
    convertString stringFormats stringFormatFallback patOk a = convertString stringFormats stringFormatFallback patOk b := by
  obtain ⟨_, _, _, _⟩ := a; obtain ⟨_, _, _, _⟩ := b
  simp only at ha hb; subst ha; subst hb
  simp [convertString]

/-- observation: a format no arm recognises loses the schema's pattern and length bounds -/
theorem convert_string_format_drops :
    (convertString stringFormats stringFormatFallback patOk
      { fmt := some "hostname", minLen := none, maxLen := some 5, pattern := some "^[a-z]+$" }).out = .plain := by
  simp [convertString, selectStringFormat]; decide

end TypifyModel.C05C
