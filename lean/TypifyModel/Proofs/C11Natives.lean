import TypifyModel.Model.Natives
import TypifyModel.Generated.StringFormats
/-! # C11, newtypes over string-formatted natives

Two layers. (1) For every native whose conversions *meet* the facts recorded for it (`NativeOps.Meets`, an assumption
about chrono / uuid / std::net probed on compiled code on every run), the forwarding templates typify emits for the
newtype and for untagged enums over such natives agree with the wire format — for all strings and values.
(2) Over the format table regenerated from `convert_string` (translator T2): every arm that advertises `Display` /
`FromStr` selects a native for which the corresponding fact is recorded as true — except `date-time`, whose `Display`
is **not** its wire form (finding C11-datetime-display, refuted in `C11Findings`). -/
namespace TypifyModel.C11N
open TypifyModel TypifyModel.Generated

theorem nt_fromstr_eq_de {α : Type} (o : NativeOps α) (f : NativeFacts) (h : o.Meets f) (hf : f.fromStrIsDe = true)
    (s : String) : ntFromStr o s = ntDe o s := h.1 hf s

theorem nt_tryfrom_eq_fromstr {α : Type} (o : NativeOps α) (s : String) : ntTryFrom o s = ntFromStr o s := rfl

theorem nt_display_eq_ser {α : Type} (o : NativeOps α) (f : NativeFacts) (h : o.Meets f) (hf : f.displayIsWire = true)
    (v : α) : ntDisplay o v = ntSer o v := h.2 hf v

theorem ut_fromstr_eq_de {α : Type} (os : List (NativeOps α))
    (h : ∀ o ∈ os, ∀ s, o.parse s = o.de s) (i : Nat) (s : String) : utFromStr os i s = utDe os i s := by
  induction os generalizing i with
  | nil => rfl
  | cons o r ih =>
    simp only [utFromStr, utDe]
    rw [h o (by simp) s]
    cases o.de s with
    | some v => rfl
    | none => exact ih (fun o' ho' => h o' (by simp [ho'])) (i + 1)

theorem ut_display_eq_ser {α : Type} (os : List (NativeOps α))
    (h : ∀ o ∈ os, ∀ v, o.display v = o.ser v) (v : Nat × α) : utDisplay os v = utSer os v := by
  simp only [utDisplay, utSer]
  cases hv : os[v.1]? with
  | none => rfl
  | some o => simp only [Option.map_some]; rw [h o (List.mem_of_getElem? hv) v.2]

/-- full statement over the regenerated table: every arm of `convert_string` advertises only conversions that are
    the wire form -/
def native_formats_coherent_full : Prop := ∀ r ∈ stringFormats, r.coherent = true

/-- what holds: every arm except `date-time` -/
theorem native_formats_coherent_partial :
    (stringFormats.all fun r => r.fmt == "date-time" || r.coherent) = true := by decide +kernel

/-- ... and `date-time` fails only on `Display` (its `FromStr` is coherent) -/
theorem datetime_fromstr_coherent :
    (stringFormats.all fun r => r.fmt != "date-time" ||
      ({ r with impls := r.impls.filter (· != "Display") } : StrFormatRow).coherent) = true := by decide +kernel

/-- the fallback arm gives a plain `String` and advertises no conversion -/
theorem fallback_is_string : stringFormatFallback.path = "String" ∧ stringFormatFallback.impls = [] := by decide +kernel

/-- no arm has an `if` guard: the table is the whole `match` -/
theorem no_guarded_arm : stringFormatsGuarded = [] := by decide +kernel

-- non-vacuity: a native meeting its facts, and the table has rows with conversions
example : (⟨fun s => some s, fun s => some s, id, id⟩ : NativeOps String).Meets ⟨"::uuid::Uuid", true, true, "uuid"⟩ :=
  ⟨fun _ _ => rfl, fun _ _ => rfl⟩
example : (stringFormats.filter fun r => r.impls.contains "Display").length ≥ 1 := by decide +kernel

end TypifyModel.C11N
